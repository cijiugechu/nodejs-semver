import SemverModel.VersionOrd
import SemverSpec.Precedence
/-!
# The version comparator is a lawful total preorder and equals the SemVer §11 specification

The instances are core's for `compareLex`, `compareOn` and `List.compareLex`.  The specification's decision
procedures are the model's comparators; its relations `StrLt` and `PreLt` are core's `List.Lex`, which
`List.compareLex` decides.
-/
namespace Semver
open Std

instance : OrientedCmp cmpIdent where
  eq_swap {a b} := by
    cases a <;> cases b <;> simp [cmpIdent]
    case num.num => exact OrientedCmp.eq_swap
    case alpha.alpha => exact OrientedCmp.eq_swap

instance : TransCmp cmpIdent where
  isLE_trans {a b c} h1 h2 := by
    cases a <;> cases b <;> cases c <;> simp_all [cmpIdent]
    case num.num.num => exact TransCmp.isLE_trans (cmp := compare (α := Nat)) h1 h2
    case alpha.alpha.alpha => exact TransCmp.isLE_trans (cmp := List.compareLex (compareOn Char.toNat)) h1 h2

instance : OrientedCmp cmpPre where
  eq_swap {a b} := by
    cases a <;> cases b <;> simp [cmpPre]
    exact OrientedCmp.eq_swap (cmp := List.compareLex cmpIdent)

instance : TransCmp cmpPre where
  isLE_trans {a b c} h1 h2 := by
    cases a <;> cases b <;> cases c <;> simp_all [cmpPre]
    exact TransCmp.isLE_trans (cmp := List.compareLex cmpIdent) h1 h2

-- the last component of `cmpVersion` in the form `infer_instance` meets it below
instance : TransCmp (fun (a b : Version) => cmpPre a.pre b.pre) where
  eq_swap := OrientedCmp.eq_swap (cmp := cmpPre)
  isLE_trans h1 h2 := TransCmp.isLE_trans (cmp := cmpPre) h1 h2

instance instTransCmpVersion : TransCmp cmpVersion := by unfold cmpVersion; infer_instance

instance : LawfulEqCmp (compareOn Char.toNat) where
  eq_of_compare {a b} h := by
    simp only [compareOn] at h
    have := LawfulEqCmp.eq_of_compare (cmp := (compare : Nat → Nat → Ordering)) h
    exact Char.toNat_inj.mp this
  compare_self {a} := by simp [compareOn]

instance : LawfulEqCmp cmpIdent where
  eq_of_compare {a b} h := by
    cases a <;> cases b
    case num.num => exact congrArg Ident.num (LawfulEqCmp.eq_of_compare (cmp := compare (α := Nat)) h)
    case alpha.alpha =>
      exact congrArg Ident.alpha (LawfulEqCmp.eq_of_compare (cmp := List.compareLex (compareOn Char.toNat)) h)
    all_goals cases h
  compare_self {a} := ReflCmp.compare_self

instance : LawfulEqCmp cmpPre where
  eq_of_compare {a b} h := by
    cases a <;> cases b
    case cons.cons => exact LawfulEqCmp.eq_of_compare (cmp := List.compareLex cmpIdent) h
    case nil.nil => rfl
    all_goals cases h
  compare_self {a} := ReflCmp.compare_self

theorem cmpVersion_def (a b : Version) :
    cmpVersion a b = (compare a.major b.major).then ((compare a.minor b.minor).then
      ((compare a.patch b.patch).then (cmpPre a.pre b.pre))) := by
  simp [cmpVersion, compareLex, compareOn]

theorem compare_then (a b : Nat) (o : Ordering) :
    (compare a b).then o = if a < b then .lt else if b < a then .gt else o := by
  rw [Nat.compare_eq_ite_lt, apply_ite (Ordering.then · o), apply_ite (Ordering.then · o)]
  rfl

theorem strCmp_eq (s t : List Char) : Spec.strCmp s t = List.compareLex (compareOn Char.toNat) s t := by
  induction s generalizing t with
  | nil => cases t <;> rfl
  | cons c s ih =>
    cases t with
    | nil => rfl
    | cons d t => rw [Spec.strCmp, List.compareLex_cons_cons, compareOn, compare_then, ih]

theorem idCmp_eq (a b : Ident) : Spec.idCmp a b = cmpIdent a b := by
  cases a <;> cases b
  · exact (Nat.compare_eq_ite_lt _ _).symm
  · rfl
  · rfl
  · exact strCmp_eq _ _

theorem preCmp_eq (p q : List Ident) : Spec.preCmp p q = List.compareLex cmpIdent p q := by
  induction p generalizing q with
  | nil => cases q <;> rfl
  | cons a p ih =>
    cases q with
    | nil => rfl
    | cons b q =>
      rw [Spec.preCmp, List.compareLex_cons_cons, idCmp_eq, ih]
      cases cmpIdent a b <;> rfl

/-- the right side is the last clause of `Spec.prec` -/
theorem cmpPre_eq (p q : List Ident) :
    cmpPre p q = match p, q with
      | [], [] => .eq
      | [], _ :: _ => .gt
      | _ :: _, [] => .lt
      | p, q => Spec.preCmp p q := by
  cases p <;> cases q <;> first | rfl | exact (preCmp_eq _ _).symm

theorem prec_eq (a b : Version) : Spec.prec a b = cmpVersion a b := by
  rw [cmpVersion_def, compare_then, compare_then, compare_then, cmpPre_eq]
  rfl

theorem _root_.List.compareLex_eq_lt_iff {α} {cmp : α → α → Ordering} [LawfulEqCmp cmp] {l₁ l₂ : List α} :
    l₁.compareLex cmp l₂ = .lt ↔ List.Lex (fun a b => cmp a b = .lt) l₁ l₂ := by
  induction l₁ generalizing l₂ with
  | nil => cases l₂ <;> simp [List.compareLex_nil_nil, List.compareLex_nil_cons]
  | cons a l₁ ih =>
    cases l₂ with
    | nil => simp [List.compareLex_cons_nil]
    | cons b l₂ =>
      rw [List.compareLex_cons_cons, Ordering.then_eq_lt, List.cons_lex_cons_iff,
        LawfulEqCmp.compare_eq_iff_eq, ih]

theorem strLt_iff_lex {s t : List Char} :
    Spec.StrLt s t ↔ List.Lex (fun c d => c.toNat < d.toNat) s t := by
  constructor <;> intro h
  · induction h with
    | nil => exact .nil
    | head h => exact .rel h
    | tail _ ih => exact .cons ih
  · induction h with
    | nil => exact .nil
    | rel h => exact .head h
    | cons _ ih => exact .tail ih

theorem preLt_iff_lex {p q : List Ident} : Spec.PreLt p q ↔ List.Lex Spec.IdLt p q := by
  constructor <;> intro h
  · induction h with
    | fewer => exact .nil
    | head h => exact .rel h
    | tail _ ih => exact .cons ih
  · induction h with
    | nil => exact .fewer
    | rel h => exact .head h
    | cons _ ih => exact .tail ih

theorem compareLex_toNat_lt_iff {s t : List Char} :
    List.compareLex (compareOn Char.toNat) s t = .lt ↔ Spec.StrLt s t := by
  rw [List.compareLex_eq_lt_iff, strLt_iff_lex]
  simp only [compareOn, Nat.compare_eq_lt]

theorem cmpIdent_lt_iff {a b : Ident} : cmpIdent a b = .lt ↔ Spec.IdLt a b := by
  constructor
  · cases a <;> cases b <;> intro h
    · exact .numNum (Nat.compare_eq_lt.mp h)
    · exact .numAlpha
    · cases h
    · exact .alphaAlpha (compareLex_toNat_lt_iff.mp h)
  · rintro (h | _ | h)
    · exact Nat.compare_eq_lt.mpr h
    · rfl
    · exact compareLex_toNat_lt_iff.mpr h

theorem compareLex_cmpIdent_lt_iff {p q : List Ident} :
    List.compareLex cmpIdent p q = .lt ↔ Spec.PreLt p q := by
  rw [List.compareLex_eq_lt_iff, preLt_iff_lex]
  simp only [cmpIdent_lt_iff]

theorem cmpPre_lt_iff {p q : List Ident} :
    cmpPre p q = .lt ↔ p ≠ [] ∧ (q = [] ∨ q ≠ [] ∧ Spec.PreLt p q) := by
  cases p <;> cases q <;> simp [cmpPre, compareLex_cmpIdent_lt_iff]

theorem cmpVersion_lt_iff {a b : Version} : cmpVersion a b = .lt ↔ Spec.VLt a b := by
  simp only [cmpVersion_def, Ordering.then_eq_lt, Nat.compare_eq_lt, Nat.compare_eq_eq, cmpPre_lt_iff]
  constructor
  · rintro (h | ⟨h1, h | ⟨h2, h | ⟨h3, hp, hq | ⟨hq, hpq⟩⟩⟩⟩)
    · exact .major h
    · exact .minor h1 h
    · exact .patch h1 h2 h
    · exact .release h1 h2 h3 hp hq
    · exact .pre h1 h2 h3 hp hq hpq
  · intro h
    cases h with
    | major h => exact .inl h
    | minor h1 h => exact .inr ⟨h1, .inl h⟩
    | patch h1 h2 h => exact .inr ⟨h1, .inr ⟨h2, .inl h⟩⟩
    | release h1 h2 h3 hp hq => exact .inr ⟨h1, .inr ⟨h2, .inr ⟨h3, hp, .inl hq⟩⟩⟩
    | pre h1 h2 h3 hp hq hpq => exact .inr ⟨h1, .inr ⟨h2, .inr ⟨h3, hp, .inr ⟨hq, hpq⟩⟩⟩⟩

theorem cmpVersion_eq_iff {a b : Version} : cmpVersion a b = .eq ↔ Spec.VEq a b := by
  simp only [cmpVersion_def, Ordering.then_eq_eq, LawfulEqCmp.compare_eq_iff_eq, Spec.VEq]

end Semver
