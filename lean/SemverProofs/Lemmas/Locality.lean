import SemverProofs.Lemmas.NpmParse
/-!
# Locality of the range parser at an alternative boundary (towards C02, text level)

`t` is a separator tail: blanks, at least one, then `||` and anything, or the end of the text
(`AltSep t T0`, `T0` being `t` without its blanks).  Every comparator production, run on `y ++ t` for
*any* text `y`, does what it does on `y` and leaves `t` behind: inside a token by `Lemmas/Boundary.lean`,
and where it skips blanks it can run through the blanks of `t`, but then it stands at `T0`, where it
fails as it does on the empty input.  The loops leave `T0` instead when `y` is read to its end.  Hence
the alternatives of `a || b` are those of `a` followed by those of `b`, for all texts (`alts_sep`).
-/
namespace Semver

structure Sep (t T0 : List Char) : Prop where
  eq : t = ' ' :: T0
  bars : ∃ b, T0 = '|' :: '|' :: b

/-- the tail after an alternative: blanks, at least one, then the end of the text or `||` -/
structure AltSep (t T0 : List Char) : Prop where
  head : ∃ c u, t = c :: u ∧ isBlank c = true
  altEnd : AltEnd t T0

variable {t T0 : List Char}

theorem Sep.head_blank (h : Sep t T0) : ∀ c, t.head? = some c → c = ' ' := by
  rw [h.eq]
  exact forall_head_cons rfl

theorem Sep.altSep (h : Sep t T0) : AltSep t T0 :=
  ⟨⟨' ', T0, h.eq, rfl⟩, [' '], h.eq, rfl, Or.inr h.bars⟩

theorem AltSep.tokEnd (h : AltSep t T0) : atEnd t = true := h.altEnd.tokFollow.atEnd

theorem AltSep.follow (h : AltSep t T0) : AltFollow T0 := by
  obtain ⟨b, _, _, hf⟩ := h.altEnd; exact hf

theorem number_T0 (h : Sep t T0) : ∃ e, number T0 = .err e := by
  have := number_local (atEnd_extrasFollow h.altSep.follow.tokEnd) []
  rw [List.nil_append] at this
  exact ⟨_, this⟩

theorem dropBlanks_app (z : List Char) (h : AltSep t T0) :
    dropBlanks (z ++ t) = if dropBlanks z = [] then T0 else dropBlanks z ++ t := by
  rw [dropBlanks_junction, dropBlanks_altEnd h.altEnd]

theorem blanks1_sep (h : AltSep t T0) : blanks1 t = some T0 := by
  obtain ⟨c, u, rfl, hc⟩ := h.head
  have := dropBlanks_altEnd h.altEnd
  rw [dropBlanks_cons_blank u hc] at this
  rw [blanks1, if_pos hc, this]

theorem blanks1_cons_app (c : Char) (cs : List Char) (h : AltSep t T0) :
    blanks1 (c :: cs ++ t) =
      if isBlank c then some (if dropBlanks cs = [] then T0 else dropBlanks cs ++ t) else none := by
  simp only [List.cons_append, blanks1]
  rw [dropBlanks_app cs h]

theorem partialVersion_nil : partialVersion [] = none := partialVersion_altFollow (Or.inl rfl)

/-- either something is left after the `v` and the blanks, or the blanks run into `T0`, where
`partial_version` fails as it does at the end of the input -/
theorem partialVersion_app (z : List Char) (h : AltSep t T0) :
    partialVersion (z ++ t) = mapRest t (partialVersion z) := by
  unfold partialVersion
  rw [stripV_tail z h.tokEnd, dropBlanks_app _ h]
  by_cases hy : dropBlanks (stripV z) = []
  · have : partialCore T0 = none := partialCore_tail [] h.follow.tokEnd
    rw [if_pos hy, hy, this]; rfl
  · rw [if_neg hy]; exact partialCore_tail _ h.tokEnd

theorem partialVersion_dropBlanks_app (r : List Char) (h : AltSep t T0) :
    partialVersion (dropBlanks (r ++ t)) = mapRest t (partialVersion (dropBlanks r)) := by
  rw [dropBlanks_app r h]
  by_cases hr : dropBlanks r = []
  · rw [if_pos hr, hr, partialVersion_altFollow h.follow, partialVersion_nil]; rfl
  · rw [if_neg hr]; exact partialVersion_app _ h

theorem primitive_app (z : List Char) (h : AltSep t T0) : primitive (z ++ t) = mapRest t (primitive z) := by
  unfold primitive
  rw [operation_tail z h.tokEnd]
  cases ho : operation z with
  | none => rfl
  | some x =>
    obtain ⟨op, r⟩ := x
    simp only [mapRest, Option.map_some]
    rw [partialVersion_dropBlanks_app r h]
    cases partialVersion (dropBlanks r) <;> rfl

theorem partialP_app (z : List Char) (h : AltSep t T0) : partialP (z ++ t) = mapRest t (partialP z) := by
  unfold partialP
  rw [partialVersion_app z h]
  cases partialVersion z <;> rfl

theorem caret_app (z : List Char) (h : AltSep t T0) : caret (z ++ t) = mapRest t (caret z) := by
  cases z with
  | nil => exact caret_none_of_atEnd h.tokEnd
  | cons c cs =>
    by_cases hc : c = '^'
    · subst hc
      simp only [List.cons_append, caret]
      rw [partialVersion_dropBlanks_app cs h]
      cases partialVersion (dropBlanks cs) <;> rfl
    · rw [List.cons_append, caret_none_of_head hc, caret_none_of_head hc]; rfl

theorem tilde_app (z : List Char) (h : AltSep t T0) : tilde (z ++ t) = mapRest t (tilde z) := by
  cases z with
  | nil => exact tilde_none_of_atEnd h.tokEnd
  | cons c cs =>
    by_cases hc : c = '~'
    · subst hc
      simp only [List.cons_append]
      unfold tilde tildeGt
      simp only
      rw [dropBlanks_app cs h]
      by_cases hcs : dropBlanks cs = []
      · -- the blanks after `~` run into the separator: both fail
        have e : stripGt T0 = (false, T0) := stripGt_tail [] h.follow.tokEnd
        rw [if_pos hcs, hcs, e]
        simp only [dropBlanks_altFollow h.follow, partialVersion_altFollow h.follow]
        rfl
      · rw [if_neg hcs, stripGt_tail _ h.tokEnd]
        simp only
        rw [partialVersion_dropBlanks_app _ h]
        cases partialVersion (dropBlanks (stripGt (dropBlanks cs)).2) <;> rfl
    · rw [List.cons_append, tilde_none_of_head hc, tilde_none_of_head hc]; rfl

theorem optPartial_app (z : List Char) (h : AltSep t T0) :
    optPartial (z ++ t) = ((optPartial z).1, (optPartial z).2 ++ t) := by
  unfold optPartial
  rw [partialVersion_app z h]
  cases partialVersion z <;> rfl

theorem blanks1_then {α : Type} (f : List Char → Option (α × List Char)) (z : List Char) (h : AltSep t T0)
    (hnil : f [] = none) (hT0 : f T0 = none) (happ : ∀ y, f (y ++ t) = mapRest t (f y)) :
    (match blanks1 (z ++ t) with | none => none | some r => f r) =
      mapRest t (match blanks1 z with | none => none | some r => f r) := by
  cases z with
  | nil => rw [List.nil_append, blanks1_sep h]; simp only [blanks1, hT0]; rfl
  | cons c cs =>
    rw [blanks1_cons_app c cs h]
    simp only [blanks1]
    by_cases hc : isBlank c = true
    · simp only [hc, if_true]
      by_cases hd : dropBlanks cs = []
      · simp only [hd, if_true, hT0, hnil]; rfl
      · simp only [hd, if_false]; exact happ _
    · simp only [hc, Bool.false_eq_true, if_false]; rfl

theorem hyphenRest_app (z : List Char) (h : AltSep t T0) : hyphenRest (z ++ t) = mapRest t (hyphenRest z) := by
  have inner : ∀ y : List Char,
      (match blanks1 (y ++ t) with | none => none | some r => partialVersion r) =
        mapRest t (match blanks1 y with | none => none | some r => partialVersion r) :=
    fun y => blanks1_then partialVersion y h partialVersion_nil (partialVersion_altFollow h.follow)
      (fun y => partialVersion_app y h)
  let g : List Char → Option (Partial × List Char) := fun r1 =>
    match dash r1 with
    | none => none
    | some r2 => match blanks1 r2 with | none => none | some r3 => partialVersion r3
  have gnil : g [] = none := rfl
  have gT0 : g T0 = none := by
    have : dash T0 = none := dash_tail [] h.follow.tokEnd
    simp only [g, this]
  have gapp : ∀ y, g (y ++ t) = mapRest t (g y) := by
    intro y
    simp only [g]
    rw [dash_tail y h.tokEnd]
    cases dash y with
    | none => rfl
    | some r2 => simp only [Option.map_some]; exact inner r2
  have := blanks1_then g z h gnil gT0 gapp
  unfold hyphenRest
  exact this

theorem hyphen_app (z : List Char) (h : AltSep t T0) : hyphen (z ++ t) = mapRest t (hyphen z) := by
  unfold hyphen
  simp only
  rw [optPartial_app z h]
  simp only
  rw [hyphenRest_app _ h]
  cases hyphenRest (optPartial z).2 <;> rfl

/-- the blank at the head of the separator keeps `peek("||")` from pairing a last `|` of `r` with it -/
theorem atEnd_app (r : List Char) (h : AltSep t T0) : atEnd (r ++ t) = atEnd r := by
  obtain ⟨b, u, rfl, hb⟩ := h.head
  have hbar : b ≠ '|' := by intro e; subst e; cases hb
  cases r with
  | nil => exact atEnd_of_blank_head hb
  | cons c cs =>
    have : (∃ u', cs ++ b :: u = '|' :: u') ↔ ∃ u', cs = '|' :: u' := by
      cases cs with
      | nil => exact ⟨fun ⟨_, e⟩ => absurd (List.cons.inj e).1 hbar, fun ⟨_, e⟩ => by cases e⟩
      | cons d ds =>
        exact ⟨fun ⟨_, e⟩ => ⟨ds, by rw [(List.cons.inj e).1]⟩,
          fun ⟨_, e⟩ => ⟨ds ++ b :: u, by rw [(List.cons.inj e).1]; rfl⟩⟩
    rw [Bool.eq_iff_iff, List.cons_append, atEnd_cons_iff, atEnd_cons_iff, this]

theorem terminated_append {r : Option (Option BoundSet × List Char)}
    (hat : ∀ b x, r = some (b, x) → atEnd (x ++ t) = atEnd x) :
    terminated (mapRest t r) = mapRest t (terminated r) := by
  cases r with
  | none => rfl
  | some y =>
    obtain ⟨b, x⟩ := y
    simp only [mapRest, Option.map_some, terminated]
    rw [hat b x rfl]
    split <;> rfl

/-- `simple` leaves `t` behind as soon as each of its alternatives does and `peek(space1 | "||" | eof)`
answers the same with `t` behind what they leave -/
theorem simple_append (z : List Char) (hhy : hyphen (z ++ t) = mapRest t (hyphen z))
    (hpr : primitive (z ++ t) = mapRest t (primitive z)) (hpa : partialP (z ++ t) = mapRest t (partialP z))
    (hti : tilde (z ++ t) = mapRest t (tilde z)) (hca : caret (z ++ t) = mapRest t (caret z))
    (hga : garbage (z ++ t) = garbage z ++ t) (hat : ∀ x, x <:+ z → atEnd (x ++ t) = atEnd x) :
    simple (z ++ t) = ((simple z).1, (simple z).2 ++ t) := by
  have T : ∀ (P : List Char → Option (Option BoundSet × List Char)),
      (∀ {b r}, P z = some (b, r) → r <:+ z) → terminated (mapRest t (P z)) = mapRest t (terminated (P z)) :=
    fun P hs => terminated_append (fun b x hx => hat x (hs hx))
  unfold simple
  rw [hhy, T hyphen hyphen_suffix, hpr, T primitive primitive_suffix, hpa, T partialP partialP_suffix,
    hti, T tilde tilde_suffix, hca, T caret caret_suffix, hga]
  cases terminated (hyphen z) with
  | some x => rfl
  | none =>
    cases terminated (primitive z) with
    | some x => rfl
    | none =>
      cases terminated (partialP z) with
      | some x => rfl
      | none =>
        cases terminated (tilde z) with
        | some x => rfl
        | none =>
          cases terminated (caret z) with
          | some x => rfl
          | none => rfl

theorem garbage_app (z : List Char) (h : AltSep t T0) : garbage (z ++ t) = garbage z ++ t := by
  induction z with
  | nil =>
    obtain ⟨b, u, rfl, hb⟩ := h.head
    simp only [List.nil_append, garbage, atEnd_of_blank_head hb, if_true]
  | cons c cs ih =>
    have ha := atEnd_app (c :: cs) h
    simp only [List.cons_append] at ha ⊢
    unfold garbage
    rw [ha]
    split
    · rfl
    · exact ih

theorem simple_app (z : List Char) (h : AltSep t T0) : simple (z ++ t) = ((simple z).1, (simple z).2 ++ t) :=
  simple_append z (hyphen_app z h) (primitive_app z h) (partialP_app z h) (tilde_app z h) (caret_app z h)
    (garbage_app z h) (fun x _ => atEnd_app x h)

theorem garbage_atEnd (s : List Char) : atEnd (garbage s) = true := by
  induction s with
  | nil => rfl
  | cons c cs ih =>
    unfold garbage
    split
    · assumption
    · exact ih

theorem simple_atEnd (s : List Char) : atEnd (simple s).2 = true :=
  simple_elim (motive := fun x => atEnd x.2 = true) s (fun _ _ h => h) (fun _ _ h => h) (fun _ _ h => h)
    (fun _ _ h => h) (fun _ _ h => h) (garbage_atEnd s)

theorem altFollow_of_atEnd {x : List Char} (h1 : atEnd x = true) (h2 : blanks1 x = none) : AltFollow x := by
  cases x with
  | nil => exact Or.inl rfl
  | cons c cs =>
    rcases (atEnd_cons_iff c cs).1 h1 with hb | ⟨rfl, u, rfl⟩
    · rw [blanks1, if_pos hb] at h2; cases h2
    · exact Or.inr ⟨u, rfl⟩

theorem rangeTail_stops (s : List Char) (hs : atEnd s = true) : AltFollow (rangeTail s).2 := by
  induction s using rangeTail.induct with
  | case1 s h =>
    rw [rangeTail_none h]
    exact altFollow_of_atEnd hs h
  | case2 s r h _ ih =>
    rw [rangeTail_some h]
    exact ih (simple_atEnd r)

theorem rangeP_stops (s : List Char) : AltFollow (rangeP s).2 := by
  unfold rangeP
  exact rangeTail_stops _ (simple_atEnd s)

/-- the same comparators up to dropped ones (`filterMap id`: when `z` ends in blanks the loop makes one
more round at `T0` and records a `none`); the rest is `t` appended, or `T0` when `z` was read to its end -/
theorem rangeTail_app (z : List Char) (h : AltSep t T0) :
    (rangeTail (z ++ t)).1.filterMap id = (rangeTail z).1.filterMap id ∧
    (rangeTail (z ++ t)).2 = (if (rangeTail z).2 = [] then T0 else (rangeTail z).2 ++ t) := by
  -- the loop on the separator alone: one round through the blanks, nothing at `||`
  have hsep : rangeTail T0 = ([], T0) := rangeTail_altFollow h.follow
  have hnil : rangeTail [] = ([], []) := rangeTail_altFollow (Or.inl rfl)
  induction z using rangeTail.induct with
  | case1 z hz =>
    cases z with
    | nil =>
      rw [List.nil_append, rangeTail_some (blanks1_sep h), simple_altFollow h.follow]
      simp only
      rw [hsep, hnil]
      simp
    | cons c cs =>
      have hbt := blanks1_cons_app c cs h
      have hc : ¬ isBlank c = true := fun hc => by
        rw [blanks1_cons_blank cs hc] at hz
        cases hz
      rw [if_neg hc] at hbt
      rw [rangeTail_none hbt, rangeTail_none hz]
      simp
  | case2 z r hz _ ih =>
    obtain ⟨c, cs, rfl, hc, rfl⟩ := blanks1_some hz
    have hbt := blanks1_cons_app c cs h
    rw [if_pos hc] at hbt
    rw [rangeTail_some hbt, rangeTail_some hz]
    by_cases hd : dropBlanks cs = []
    · simp only [hd, if_true]
      rw [simple_altFollow h.follow, simple_altFollow (Or.inl rfl)]
      simp only
      rw [hsep, hnil]
      simp
    · simp only [hd, if_false]
      rw [simple_app _ h]
      simp only
      refine ⟨?_, ih.2⟩
      simp only [List.filterMap_cons]
      rw [ih.1]

theorem rangeP_app (z : List Char) (h : AltSep t T0) :
    (rangeP (z ++ t)).1 = (rangeP z).1 ∧
    (rangeP (z ++ t)).2 = (if (rangeP z).2 = [] then T0 else (rangeP z).2 ++ t) := by
  unfold rangeP
  simp only
  rw [simple_app z h]
  simp only
  have := rangeTail_app (simple z).2 h
  refine ⟨?_, this.2⟩
  apply foldSets_congr
  simp only [List.filterMap_cons]
  rw [this.1]

theorem boundSets_bars (bb : List Char) : (boundSets ('|' :: '|' :: bb)).1 = altsOf bb := by
  rw [boundSets_of_rangeP (rangeP_altFollow (Or.inr ⟨bb, rfl⟩)), boundSetsTail_bars]
  rfl

/-- `range()` stops at the end of `z` or at a `||` inside it, and there `bound_sets()` starts again -/
theorem boundSets_app (z : List Char) (h : AltSep t T0) (bb : List Char) (hb : T0 = '|' :: '|' :: bb) :
    (boundSets (z ++ t)).1 = (boundSets z).1 ++ altsOf bb := by
  -- by the length of `z`: the step goes to what follows a `||` inside `z`, blanks dropped, which is a call
  -- of `bound_sets()` from its own loop and not a recursive call of one function of the model
  generalize hn : z.length = n
  induction n using Nat.strongRecOn generalizing z with
  | _ n ih =>
    have hr := rangeP_app z h
    have hstop := rangeP_stops z
    have hl := rangeP_length z
    cases hz : rangeP z with
    | mk x r =>
      rw [hz] at hr hstop hl
      have e : rangeP (z ++ t) = (x, if r = [] then T0 else r ++ t) := Prod.ext hr.1 hr.2
      rw [boundSets_of_rangeP e, boundSets_of_rangeP hz, List.append_assoc]
      congr 1
      rcases hstop with rfl | ⟨u, rfl⟩
      · rw [if_pos rfl, boundSetsTail_nil, hb, boundSetsTail_bars]
        rfl
      · rw [if_neg (List.cons_ne_nil _ _), List.cons_append, List.cons_append, boundSetsTail_bars,
          boundSetsTail_bars, dropBlanks_app u h]
        by_cases hd : dropBlanks u = []
        · rw [if_pos hd, hd, hb, boundSets_bars, boundSets_nil]
          rfl
        · rw [if_neg hd]
          have := dropBlanks_length_le u
          have hl' : u.length + 2 ≤ z.length := hl
          exact ih (dropBlanks u).length (by omega) _ rfl

/-- for all texts and any blanks around the `||`, at least one in front (without it a last `|` of `a`
would pair with the bars) -/
theorem alts_sep (a b b1 b2 : List Char) (h1 : b1 ≠ []) (hb1 : b1.all isBlank = true) (hb2 : b2.all isBlank = true) :
    altsOf (a ++ (b1 ++ '|' :: '|' :: (b2 ++ b))) = altsOf a ++ altsOf b := by
  have hsep : AltSep (b1 ++ '|' :: '|' :: (b2 ++ b)) ('|' :: '|' :: (b2 ++ b)) := by
    refine ⟨?_, b1, rfl, hb1, Or.inr ⟨_, rfl⟩⟩
    obtain ⟨c, u, rfl, hc, _⟩ := exists_cons_of_all h1 hb1
    exact ⟨c, _, rfl, hc⟩
  have hafter : altsOf (b2 ++ b) = altsOf b := by
    unfold altsOf
    rw [dropBlanks_junction, if_pos (dropBlanks_eq_nil_iff.2 hb2)]
  rw [← hafter]
  unfold altsOf
  rw [dropBlanks_app a hsep]
  by_cases ha : dropBlanks a = []
  · rw [if_pos ha, ha, boundSets_nil]
    exact boundSets_bars (b2 ++ b)
  · rw [if_neg ha]
    exact boundSets_app _ hsep (b2 ++ b) rfl

end Semver
