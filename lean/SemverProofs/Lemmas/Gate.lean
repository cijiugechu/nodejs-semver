import SemverProofs.Lemmas.Ranges
/-!
# The prerelease gate

`satisfies = within ∧ (release ∨ gate)`; how the gate of an intersection relates to the gates of
its operands ("between two prereleases of one tuple lies only that tuple").
-/
namespace Semver
open Pred Bound Std

theorem satisfies_iff (s : BoundSet) (v : Version) :
    s.satisfies v = true ↔ (s.within v = true ∧ (v.isPre = false ∨ s.gate v = true)) := by
  simp only [BoundSet.satisfies, Bool.and_eq_true, Bool.or_eq_true, Bool.not_eq_true']

theorem gate_of_satisfies {s : BoundSet} {v : Version} (h : s.satisfies v = true) (hp : v.isPre = true) :
    s.gate v = true := by
  have := ((satisfies_iff s v).mp h).2
  rw [hp] at this
  simpa using this

theorem Range.satisfies_release (r : Range) {v : Version} (hv : v.isPre = false) :
    Range.satisfies r v = Range.within r v := by
  simp [Range.satisfies, Range.within, BoundSet.satisfies, hv]

theorem Range.within_of_satisfies {r : Range} {v : Version} (h : Range.satisfies r v = true) :
    Range.within r v = true := by
  obtain ⟨s, hs, hsv⟩ := (Range.satisfies_iff r v).mp h
  exact (Range.within_iff r v).mpr ⟨s, hs, ((Semver.satisfies_iff s v).mp hsv).1⟩

theorem sameTuple_iff (a b : Version) :
    sameTuple a b = true ↔ (a.major = b.major ∧ a.minor = b.minor ∧ a.patch = b.patch) := by
  simp [sameTuple, and_assoc]

theorem sameTuple_comm (a b : Version) : sameTuple a b = sameTuple b a := by
  rw [Bool.eq_iff_iff, sameTuple_iff, sameTuple_iff]
  omega

theorem tuple_between {a b c : Version} (h1 : a ≤ b) (h2 : b ≤ c) (h : sameTuple a c = true) :
    sameTuple a b = true ∧ sameTuple b c = true := by
  simp only [sameTuple_iff] at h ⊢
  rw [le_iff_fields] at h1 h2
  grind

theorem isPre_of_le_pre {a b : Version} (h : a ≤ b) (ht : sameTuple a b = true) (hb : b.isPre = true) :
    a.isPre = true := by
  rw [sameTuple_iff] at ht
  rw [le_iff_fields] at h
  simp only [Version.isPre, Bool.not_eq_true', List.isEmpty_eq_false_iff] at hb ⊢
  intro h0
  rw [h0] at h
  cases hp : b.pre with
  | nil => exact hb hp
  | cons x xs =>
    -- a release is not ≤ a prerelease of its own tuple: `cmpPre [] (x :: xs) = .gt`
    rw [hp] at h
    simp [cmpPre] at h
    omega

/-- the gate contribution of one bound: the arms of `BoundSet.gate` (`gate_mk`) -/
def gBound (p : Pred) (v : Version) : Bool :=
  match p with
  | inc l => l.isPre && sameTuple v l
  | exc l => l.isPre && sameTuple v l
  | unb => false

theorem gBound_iff (p : Pred) (v : Version) :
    gBound p v = true ↔ ∃ b, (p = inc b ∨ p = exc b) ∧ b.isPre = true ∧ sameTuple v b = true := by
  cases p <;> simp [gBound]

theorem gate_mk (p q : Pred) (v : Version) :
    (BoundSet.mk (up q) (lo p)).gate v = (gBound p v || gBound q v) := by
  cases p <;> cases q <;> simp [BoundSet.gate, gBound]

theorem gate_congr (s : BoundSet) {c w : Version} (h : sameTuple c w = true) : s.gate c = s.gate w := by
  rw [sameTuple_iff] at h
  simp only [BoundSet.gate, sameTuple, h.1, h.2.1, h.2.2]

theorem tag_below {a b v : Version} (hv : v.isPre = true) (hab : b ≤ a) (hav : a ≤ v)
    (hb : sameTuple v b = true) : a.isPre = true ∧ sameTuple v a = true := by
  rw [sameTuple_comm] at hb
  obtain ⟨_, t⟩ := tuple_between hab hav hb
  exact ⟨isPre_of_le_pre hav t hv, by rwa [sameTuple_comm]⟩

theorem tag_above {a b v : Version} (hva : v ≤ a) (hab : a ≤ b) (hb : b.isPre = true)
    (ht : sameTuple v b = true) : a.isPre = true ∧ sameTuple v a = true := by
  obtain ⟨t1, t2⟩ := tuple_between hva hab ht
  exact ⟨isPre_of_le_pre hab t2 hb, t1⟩

/-- a lower bound between a tagged lower bound on `v`'s tuple and the prerelease `v` is itself
tagged on that tuple -/
theorem gBound_lo_mono {p p' : Pred} {v : Version} (hv : v.isPre = true) (hm : p.loCut < Cut.of v)
    (hge : p'.loCut ≤ p.loCut) (hg : gBound p' v = true) : gBound p v = true := by
  cases p' with
  | unb => exact absurd hg Bool.false_ne_true
  | inc b | exc b =>
    cases p with
    | unb => exact absurd hge id
    | inc a | exc a =>
      simp only [gBound, Bool.and_eq_true] at hg ⊢
      simp only [Pred.loCut, Cut.of, Cut.lt_def, Cut.le_def, Cut.lt, Cut.le, Side.rank] at hm hge
      obtain ⟨hba, hav⟩ : b ≤ a ∧ a ≤ v := by grind
      exact tag_below hv hba hav hg.2

-- no `v.isPre` here: above `v` it is the tagged bound's version, a prerelease by `hg`, that makes `a` one
theorem gBound_up_mono {q q' : Pred} {v : Version} (hm : Cut.of v < q.upCut)
    (hle : q.upCut ≤ q'.upCut) (hg : gBound q' v = true) : gBound q v = true := by
  cases q' with
  | unb => exact absurd hg Bool.false_ne_true
  | inc b | exc b =>
    cases q with
    | unb => exact absurd hle id
    | inc a | exc a =>
      simp only [gBound, Bool.and_eq_true] at hg ⊢
      simp only [Pred.upCut, Cut.of, Cut.lt_def, Cut.le_def, Cut.lt, Cut.le, Side.rank] at hm hle
      obtain ⟨hva, hab⟩ : v ≤ a ∧ a ≤ b := by grind
      exact tag_above hva hab hg.1 hg.2

theorem gBound_maxLo {p p' : Pred} {v : Version} (hv : v.isPre = true) (h1 : p.loCut < Cut.of v)
    (h2 : p'.loCut < Cut.of v) : gBound (maxLo p p') v = (gBound p v || gBound p' v) := by
  have a := @gBound_lo_mono p p' v hv h1
  have b := @gBound_lo_mono p' p v hv h2
  have := maxLo_cases p p'
  grind

theorem gBound_minUp {q q' : Pred} {v : Version} (h1 : Cut.of v < q.upCut)
    (h2 : Cut.of v < q'.upCut) : gBound (minUp q q') v = (gBound q v || gBound q' v) := by
  have a := @gBound_up_mono q q' v h1
  have b := @gBound_up_mono q' q v h2
  have := minUp_cases q q'
  grind

theorem intersect_gate {s o r : BoundSet} (hs : s.WF) (ho : o.WF) (h : s.intersect o = some r)
    {v : Version} (hv : v.isPre = true) (h1 : s.within v = true) (h2 : o.within v = true) :
    r.gate v = (s.gate v || o.gate v) := by
  obtain ⟨p, q, rfl, _⟩ := hs
  obtain ⟨p', q', rfl, _⟩ := ho
  rw [intersect_mk] at h
  rw [new_eq_some h]
  rw [within_mk] at h1 h2
  rw [gate_mk, gate_mk, gate_mk, gBound_maxLo hv h1.1 h2.1, gBound_minUp h1.2 h2.2]
  simp only [Bool.or_assoc, Bool.or_left_comm]

theorem intersect_satisfies {s o r : BoundSet} (hs : s.WF) (ho : o.WF) (h : s.intersect o = some r)
    (v : Version) :
    r.satisfies v = true ↔
      (s.within v = true ∧ o.within v = true ∧
        (v.isPre = false ∨ s.satisfies v = true ∨ o.satisfies v = true)) := by
  have hg := intersect_gate hs ho h (v := v)
  rw [satisfies_iff, satisfies_iff, satisfies_iff, (intersect_some hs ho h).2 v]
  grind

end Semver
