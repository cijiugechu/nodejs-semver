import SemverProofs.Lemmas.NpmComps
import SemverProofs.Lemmas.ParseWF
/-!
# The crate's desugaring tables against npm's documented ones (C01, on syntax trees)

`BoundSet.new (lo P) (up Q)` is compared once with the comparator list `loComp P ++ upComp Q` of its
two bounds.  A table row is that lemma at the row's bounds when npm's list for the row is literally
that comparator list; where it is not (`=v` is an interval and drops build metadata; `<=M`, `<=M.m`
are read as `<=M.MAX.MAX`, `<=M.m.MAX`, which agree with npm's `<(M+1).0.0-0`, `<M.(m+1).0-0` only on
the domain) the list is replaced by one that is equivalent on the domain (`tableOK_congr`).
-/
namespace Semver
open Pred Bound Spec Spec.Npm

/-- the property's domain of versions -/
def inDomain (v : Version) : Prop :=
  v.major ≤ MAX_SAFE_INTEGER ∧ v.minor ≤ MAX_SAFE_INTEGER ∧ v.patch ≤ MAX_SAFE_INTEGER

theorem npmMAX_eq : Npm.MAX = MAX_SAFE_INTEGER := rfl

theorem validComp_iff (c : Comp) : validComp c = true ↔
    (c.v.major ≤ MAX_SAFE_INTEGER ∧ c.v.minor ≤ MAX_SAFE_INTEGER ∧ c.v.patch ≤ MAX_SAFE_INTEGER) := by
  unfold validComp
  simp only [Bool.and_eq_true, decide_eq_true_eq, and_assoc]
  exact Iff.rfl

theorem all_valid_bounds (P Q : Pred) :
    (loComp P ++ upComp Q).all validComp = true ↔ (P.valid ∧ Q.valid) := by
  rw [valid_iff, valid_iff, List.all_eq_true]
  constructor
  · intro h
    constructor
    · intro v hv
      cases P <;> simp [predVersion] at hv <;> subst hv
      · exact (validComp_iff ⟨.gt, _⟩).mp (h _ (by simp [loComp]))
      · exact (validComp_iff ⟨.ge, _⟩).mp (h _ (by simp [loComp]))
    · intro v hv
      cases Q <;> simp [predVersion] at hv <;> subst hv
      · exact (validComp_iff ⟨.lt, _⟩).mp (h _ (by simp [upComp]))
      · exact (validComp_iff ⟨.le, _⟩).mp (h _ (by simp [upComp]))
  · intro ⟨hp, hq⟩ c hc
    rw [validComp_iff]
    rw [List.mem_append] at hc
    rcases hc with hc | hc
    · cases P <;> simp [loComp] at hc <;> subst hc <;> exact hp _ rfl
    · cases Q <;> simp [upComp] at hc <;> subst hc <;> exact hq _ rfl

theorem checked_bounds_valid {P Q : Pred} (hP : P.valid) (hQ : Q.valid) :
    checked (loComp P ++ upComp Q) = some (loComp P ++ upComp Q) :=
  if_pos ((all_valid_bounds P Q).mpr ⟨hP, hQ⟩)

theorem checked_bounds_invalid {P Q : Pred} (h : ¬ (P.valid ∧ Q.valid)) :
    checked (loComp P ++ upComp Q) = none :=
  if_neg (fun h' => h ((all_valid_bounds P Q).mp h'))

theorem new_of_invalid {P Q : Pred} (h : ¬ (P.valid ∧ Q.valid)) : BoundSet.new (lo P) (up Q) = none := by
  cases hn : BoundSet.new (lo P) (up Q) with
  | none => rfl
  | some s =>
    have := (new_isSome P Q).mp (by rw [hn]; rfl)
    exact absurd ⟨this.1, this.2.1⟩ h

/-- the statement proved for every table entry of a *simple* range: an invalid comparator is dropped
by both sides; otherwise the crate builds a well-formed interval that agrees with npm's comparators
on every version of the domain (it is never silently dropped) -/
def TableOK (model : Option BoundSet) (spec : Option (List Comp)) : Prop :=
  match spec with
  | none => model = none
  | some cs => ∃ s, model = some s ∧ s.WF ∧ ∀ v, inDomain v → AgreeAt s cs v

/-- the interval constructor against the comparator list of its two bounds, when valid bounds are
never an empty interval -/
theorem tableOK_of_new {P Q : Pred} (hne : P.valid → Q.valid → nonEmpty P Q) :
    TableOK (BoundSet.new (lo P) (up Q)) (checked (loComp P ++ upComp Q)) := by
  unfold TableOK
  by_cases hv : P.valid ∧ Q.valid
  · rw [checked_bounds_valid hv.1 hv.2]
    have hn := hne hv.1 hv.2
    exact ⟨_, new_of_nonEmpty hv.1 hv.2 hn, ⟨P, Q, rfl, hv.1, hv.2, hn⟩, fun v _ => agreeAt_self P Q v⟩
  · rw [checked_bounds_invalid hv]
    exact new_of_invalid hv

theorem lt_mk4_major (v : Version) (c d e : Nat) : v < Version.mk4 (v.major + 1) c d e := by
  rw [lt_iff_fields]; simp [Version.mk4]

theorem lt_mk4_minor (v : Version) (d e : Nat) : v < Version.mk4 v.major (v.minor + 1) d e := by
  rw [lt_iff_fields]; simp [Version.mk4]

theorem lt_mk4_patch (v : Version) (e : Nat) : v < Version.mk4 v.major v.minor (v.patch + 1) e := by
  rw [lt_iff_fields]; simp [Version.mk4]

/-- the crate's `Partial` of an npm partial (after wildcard propagation) -/
def fromNP : NP → Partial
  | .any => ⟨none, none, none, [], []⟩
  | .maj M => ⟨some M, none, none, [], []⟩
  | .majMin M m => ⟨some M, some m, none, [], []⟩
  | .full M m p pre build => ⟨some M, some m, some p, pre, build⟩

/-- replacing the comparator list by one that is equivalent on the domain: `hvalid` makes the two
lists checked or dropped together, `hadm` and `htag` carry `AgreeAt` over -/
theorem tableOK_congr {model : Option BoundSet} {cs cs' : List Comp}
    (h : TableOK model (checked cs))
    (hvalid : cs.all validComp = cs'.all validComp)
    (hadm : ∀ v, inDomain v → cs.all (·.admits v) = cs'.all (·.admits v))
    (htag : ∀ v, inDomain v → cs.all (·.admits v) = true → v.isPre = true →
      cs.any (·.tagged v) = cs'.any (·.tagged v)) :
    TableOK model (checked cs') := by
  unfold TableOK checked at h ⊢
  rw [← hvalid]
  by_cases hv : cs.all validComp = true
  · rw [if_pos hv] at h ⊢
    obtain ⟨s, hs, hwf, hag⟩ := h
    refine ⟨s, hs, hwf, fun v hd => ?_⟩
    obtain ⟨a1, a2⟩ := hag v hd
    refine ⟨by rw [a1, hadm v hd], fun hw hp => ?_⟩
    rw [a2 hw hp]
    exact htag v hd (by rw [← a1]; exact hw) hp
  · rw [if_neg hv] at h ⊢
    exact h

theorem admits_eq (v w : Version) :
    (Comp.mk .eq v).admits w = ((Comp.mk .ge v).admits w && (Comp.mk .le v).admits w) := by
  simp only [Comp.admits]
  cases Spec.prec w v <;> rfl

theorem prec_build_r (a b : Version) (x : List Ident) : Spec.prec a { b with build := x } = Spec.prec a b := by
  simp [Spec.prec]

theorem prec_build_l (a b : Version) (x : List Ident) : Spec.prec { a with build := x } b = Spec.prec a b := by
  simp [Spec.prec]

/-- `=Y` is the interval `[X, X]` for `X` equal to `Y` up to build metadata -/
theorem tableOK_eq (X : Version) (b : List Ident) :
    TableOK (BoundSet.new (lo (inc X)) (up (inc X))) (checked [⟨.eq, { X with build := b }⟩]) := by
  apply tableOK_congr (tableOK_of_new (P := inc X) (Q := inc X) (fun _ _ => Std.le_refl _))
  · simp [loComp, upComp, validComp]
  · intro v _
    simp only [loComp, upComp, List.cons_append, List.nil_append, List.all_cons, List.all_nil, Bool.and_true]
    rw [admits_eq]
    simp only [Comp.admits, prec_build_r]
  · intro v _ _ _
    simp [loComp, upComp, Comp.tagged, Spec.sameTriple]

theorem bare_table (np : NP) : TableOK (partialSet (fromNP np)) (Npm.bare np) := by
  cases np with
  | any =>
    exact tableOK_of_new (P := inc (Version.mk3 0 0 0)) (Q := unb) (fun _ _ => trivial)
  | maj M =>
    exact tableOK_of_new (P := inc (Version.mk3 M 0 0)) (Q := exc (Version.mk4 (M + 1) 0 0 0))
      (fun _ _ => lt_mk4_major _ 0 0 0)
  | majMin M m =>
    exact tableOK_of_new (P := inc (Version.mk3 M m 0)) (Q := exc (Version.mk4 M (m + 1) 0 0))
      (fun _ _ => lt_mk4_minor _ 0 0)
  | full M m p pre build => exact tableOK_eq ⟨M, m, p, pre, build⟩ build

/-- the table entries on which the crate knowingly differs from npm (known findings K2, K3) -/
def knownException : Simple → Prop
  | .prim .lt (.maj _) => True                               -- K2: `<M` read as `<M.0.0`
  | .caret (.maj 0) => True                                  -- K2: `^0` read as `<1.0.0-0`
  | .prim .le (.maj M) => M = MAX_SAFE_INTEGER               -- K3
  | .prim .le (.majMin _ m) => m = MAX_SAFE_INTEGER          -- K3
  | _ => False

/-- on the domain `<=M` (read `<=M.MAX.MAX`) is `<(M+1).0.0-0` -/
theorem le_max_admits (M : Nat) (v : Version) (hd : inDomain v) :
    (Comp.mk .le (Version.mk3 M MAX_SAFE_INTEGER MAX_SAFE_INTEGER)).admits v =
      (Comp.mk .lt (Version.mk4 (M + 1) 0 0 0)).admits v := by
  obtain ⟨_, h2, h3⟩ := hd
  -- on one tuple nothing is below the tag `0` and everything is at most the release
  have := cmpPre_ne_lt_zero v.pre
  have := cmpPre_le_nil v.pre
  rw [admits_le, admits_lt, Bool.eq_iff_iff, vle_iff, vlt_iff, le_iff_fields, lt_iff_fields]
  simp only [Version.mk3, Version.mk4]
  grind

theorem le_minor_max_admits (M m : Nat) (v : Version) (hd : inDomain v) :
    (Comp.mk .le (Version.mk3 M m MAX_SAFE_INTEGER)).admits v =
      (Comp.mk .lt (Version.mk4 M (m + 1) 0 0)).admits v := by
  obtain ⟨_, _, h3⟩ := hd
  have := cmpPre_ne_lt_zero v.pre
  have := cmpPre_le_nil v.pre
  rw [admits_le, admits_lt, Bool.eq_iff_iff, vle_iff, vlt_iff, le_iff_fields, lt_iff_fields]
  simp only [Version.mk3, Version.mk4]
  grind

theorem not_tagged_of_admits_le (M a b : Nat) (c d e : Nat) (v : Version)
    (h : (Comp.mk .le (Version.mk3 M a b)).admits v = true) :
    (Comp.mk .lt (Version.mk4 (M + 1) c d e)).tagged v = false := by
  rw [admits_le, vle_iff, le_iff_fields] at h
  simp only [Version.mk3] at h
  have : (M + 1 == v.major) = false := by simp; grind
  simp [Comp.tagged, Spec.sameTriple, Version.mk4, this]

theorem not_tagged_of_admits_le_minor (M m b d e : Nat) (v : Version)
    (h : (Comp.mk .le (Version.mk3 M m b)).admits v = true) :
    (Comp.mk .lt (Version.mk4 M (m + 1) d e)).tagged v = false := by
  rw [admits_le, vle_iff, le_iff_fields] at h
  simp only [Version.mk3] at h
  simp only [Comp.tagged, Spec.sameTriple, Version.mk4]
  by_cases hM : M = v.major
  · have : (m + 1 == v.minor) = false := by simp; grind
    simp [this]
  · have : (M == v.major) = false := by simp [hM]
    simp [this]

/-- a release upper bound `<=X` against npm's exclusive `<Y`: the same comparator on the domain when the
two admit the same versions there and `Y` is never tagged on the tuple of an admitted version -/
theorem tableOK_le_as_lt {X Y : Version} (hX : X.pre = [])
    (hvalid : validComp ⟨.le, X⟩ = validComp ⟨.lt, Y⟩)
    (hadm : ∀ v, inDomain v → (Comp.mk .le X).admits v = (Comp.mk .lt Y).admits v)
    (htag : ∀ v, (Comp.mk .le X).admits v = true → (Comp.mk .lt Y).tagged v = false) :
    TableOK (BoundSet.new (lo unb) (up (inc X))) (checked [⟨.lt, Y⟩]) := by
  apply tableOK_congr (tableOK_of_new (P := unb) (Q := inc X) (fun _ _ => trivial))
  · simpa [loComp, upComp] using hvalid
  · intro v hd
    simpa [loComp, upComp] using hadm v hd
  · intro v _ ha _
    simp only [loComp, upComp, List.nil_append, List.all_cons, List.all_nil, Bool.and_true,
      List.any_cons, List.any_nil, Bool.or_false] at ha ⊢
    rw [htag v ha]
    simp [Comp.tagged, hX]

def toOperation : Op → Operation
  | .lt => .lt | .le => .le | .gt => .gt | .ge => .ge | .eq => .exact

/-- every entry of the primitive operators except the known exceptions; `cases op` yields `<`, `<=`,
`>`, `>=`, `=` in this order -/
theorem prim_table (op : Op) (np : NP) (hk : ¬ knownException (.prim op np)) :
    TableOK (primitiveSet (toOperation op) (fromNP np)) (Npm.prim op np) := by
  cases np with
  | any =>
    cases op
    · exact tableOK_of_new (P := unb) (Q := exc zero0) (fun _ _ => trivial)                     -- <x
    · exact tableOK_of_new (P := inc (Version.mk3 0 0 0)) (Q := unb) (fun _ _ => trivial)       -- <=x
    · exact tableOK_of_new (P := unb) (Q := exc zero0) (fun _ _ => trivial)                     -- >x
    · exact tableOK_of_new (P := inc (Version.mk3 0 0 0)) (Q := unb) (fun _ _ => trivial)       -- >=x
    · exact tableOK_of_new (P := inc (Version.mk3 0 0 0)) (Q := unb) (fun _ _ => trivial)       -- =x
  | maj M =>
    cases op
    · exact absurd trivial hk                                                                   -- <M (K2)
    · -- `<=M`  =  `<=M.MAX.MAX`  ~  `<(M+1).0.0-0` on the domain
      have hM : M ≠ MAX_SAFE_INTEGER := hk
      refine tableOK_le_as_lt (X := Version.mk3 M MAX_SAFE_INTEGER MAX_SAFE_INTEGER)
        (Y := Version.mk4 (M + 1) 0 0 0) rfl ?_ (le_max_admits M) (not_tagged_of_admits_le M _ _ 0 0 0)
      rw [Bool.eq_iff_iff, validComp_iff, validComp_iff]
      simp only [Version.mk3, Version.mk4]
      unfold MAX_SAFE_INTEGER at *
      omega
    · exact tableOK_of_new (P := inc (Version.mk3 (M + 1) 0 0)) (Q := unb) (fun _ _ => trivial) -- >M
    · exact tableOK_of_new (P := inc (Version.mk3 M 0 0)) (Q := unb) (fun _ _ => trivial)       -- >=M
    · -- =M
      exact tableOK_of_new (P := inc (Version.mk3 M 0 0)) (Q := exc (Version.mk4 (M + 1) 0 0 0))
        (fun _ _ => lt_mk4_major _ 0 0 0)
  | majMin M m =>
    cases op
    · exact tableOK_of_new (P := unb) (Q := exc (Version.mk4 M m 0 0)) (fun _ _ => trivial)     -- <M.m
    · -- <=M.m
      have hm : m ≠ MAX_SAFE_INTEGER := hk
      refine tableOK_le_as_lt (X := Version.mk3 M m MAX_SAFE_INTEGER) (Y := Version.mk4 M (m + 1) 0 0) rfl ?_
        (le_minor_max_admits M m) (not_tagged_of_admits_le_minor M m _ 0 0)
      rw [Bool.eq_iff_iff, validComp_iff, validComp_iff]
      simp only [Version.mk3, Version.mk4]
      unfold MAX_SAFE_INTEGER at *
      omega
    · exact tableOK_of_new (P := inc (Version.mk3 M (m + 1) 0)) (Q := unb) (fun _ _ => trivial) -- >M.m
    · exact tableOK_of_new (P := inc (Version.mk3 M m 0)) (Q := unb) (fun _ _ => trivial)       -- >=M.m
    · -- =M.m
      exact tableOK_of_new (P := inc (Version.mk3 M m 0)) (Q := exc (Version.mk4 M (m + 1) 0 0))
        (fun _ _ => lt_mk4_minor _ 0 0)
  | full M m p pre build =>
    cases op
    · exact tableOK_of_new (P := unb) (Q := exc ⟨M, m, p, pre, build⟩) (fun _ _ => trivial)     -- <v
    · exact tableOK_of_new (P := unb) (Q := inc ⟨M, m, p, pre, build⟩) (fun _ _ => trivial)     -- <=v
    · exact tableOK_of_new (P := exc ⟨M, m, p, pre, build⟩) (Q := unb) (fun _ _ => trivial)     -- >v
    · exact tableOK_of_new (P := inc ⟨M, m, p, pre, build⟩) (Q := unb) (fun _ _ => trivial)     -- >=v
    · -- `=v` drops the build metadata of `v`
      exact tableOK_eq ⟨M, m, p, pre, []⟩ build

/-- the loose `~>` builds the same intervals as `~` -/
theorem tildeSet_flag (p : NP) : tildeSet true (fromNP p) = tildeSet false (fromNP p) := by
  cases p <;> rfl

theorem tilde_table (np : NP) : TableOK (tildeSet false (fromNP np)) (Npm.tilde np) := by
  cases np with
  | any => exact tableOK_of_new (P := inc (Version.mk3 0 0 0)) (Q := unb) (fun _ _ => trivial)
  | maj M =>
    exact tableOK_of_new (P := inc (Version.mk3 M 0 0)) (Q := exc (Version.mk4 (M + 1) 0 0 0))
      (fun _ _ => lt_mk4_major _ 0 0 0)
  | majMin M m =>
    exact tableOK_of_new (P := inc (Version.mk3 M m 0)) (Q := exc (Version.mk4 M (m + 1) 0 0))
      (fun _ _ => lt_mk4_minor _ 0 0)
  | full M m p pre build =>
    exact tableOK_of_new (P := inc ⟨M, m, p, pre, []⟩) (Q := exc (Version.mk4 M (m + 1) 0 0))
      (fun _ _ => lt_mk4_minor _ 0 0)

theorem caret_table (np : NP) (hk : ¬ knownException (.caret np)) :
    TableOK (caretSet (fromNP np)) (Npm.caret np) := by
  cases np with
  | any => exact tableOK_of_new (P := inc (Version.mk3 0 0 0)) (Q := unb) (fun _ _ => trivial)
  | maj M =>
    cases M with
    | zero => exact absurd trivial hk
    | succ k =>
      exact tableOK_of_new (P := inc (Version.mk3 (k + 1) 0 0)) (Q := exc (Version.mk4 (k + 1 + 1) 0 0 0))
        (fun _ _ => lt_mk4_major _ 0 0 0)
  | majMin M m =>
    cases M with
    | zero =>
      exact tableOK_of_new (P := inc (Version.mk3 0 m 0)) (Q := exc (Version.mk4 0 (m + 1) 0 0))
        (fun _ _ => lt_mk4_minor _ 0 0)
    | succ k =>
      have : Npm.caret (.majMin (k + 1) m) =
          checked [⟨.ge, rel (k + 1) m 0⟩, ⟨.lt, pre0 (k + 1 + 1) 0 0⟩] := by simp [Npm.caret]
      rw [this]
      exact tableOK_of_new (P := inc (Version.mk3 (k + 1) m 0)) (Q := exc (Version.mk4 (k + 1 + 1) 0 0 0))
        (fun _ _ => lt_mk4_major _ 0 0 0)
  | full M m p pre build =>
    cases M with
    | zero =>
      cases m with
      | zero =>
        have : Npm.caret (.full 0 0 p pre build) =
            checked [⟨.ge, ⟨0, 0, p, pre, []⟩⟩, ⟨.lt, pre0 0 0 (p + 1)⟩] := by simp [Npm.caret]
        rw [this]
        exact tableOK_of_new (P := inc ⟨0, 0, p, pre, []⟩) (Q := exc (Version.mk4 0 0 (p + 1) 0))
          (fun _ _ => lt_mk4_patch _ 0)
      | succ j =>
        have : Npm.caret (.full 0 (j + 1) p pre build) =
            checked [⟨.ge, ⟨0, j + 1, p, pre, []⟩⟩, ⟨.lt, pre0 0 (j + 1 + 1) 0⟩] := by simp [Npm.caret]
        rw [this]
        exact tableOK_of_new (P := inc ⟨0, j + 1, p, pre, []⟩) (Q := exc (Version.mk4 0 (j + 1 + 1) 0 0))
          (fun _ _ => lt_mk4_minor _ 0 0)
    | succ k =>
      have : Npm.caret (.full (k + 1) m p pre build) =
          checked [⟨.ge, ⟨k + 1, m, p, pre, []⟩⟩, ⟨.lt, pre0 (k + 1 + 1) 0 0⟩] := by simp [Npm.caret]
      rw [this]
      exact tableOK_of_new (P := inc ⟨k + 1, m, p, pre, []⟩) (Q := exc (Version.mk4 (k + 1 + 1) 0 0 0))
        (fun _ _ => lt_mk4_major _ 0 0 0)

/-- the crate's tables applied to a syntax tree node -/
def evalSimple : Simple → Option BoundSet
  | .prim op p => primitiveSet (toOperation op) (fromNP p)
  | .bare p => partialSet (fromNP p)
  | .tilde p => tildeSet false (fromNP p)
  | .caret p => caretSet (fromNP p)
  | .garbage _ => none

theorem evalSimple_wf {s : Simple} {x : BoundSet} (h : evalSimple s = some x) : x.WF := by
  cases s with
  | prim op p => exact (primitiveSet_entry h).wf
  | bare p => exact (partialSet_entry h).wf
  | tilde p => exact (tildeSet_entry h).wf
  | caret p => exact (caretSet_entry h).wf
  | garbage t => cases h

theorem evalSimple_map_wf (l : List Simple) : ∀ x, some x ∈ l.map evalSimple → x.WF := by
  intro x hx
  obtain ⟨t, _, ht⟩ := List.mem_map.mp hx
  exact evalSimple_wf ht

def evalAlt : Alt → List BoundSet
  | .hyphen l h => (hyphenSet ((some (fromNP l)).filter (·.major.isSome)) (hyphenUpper (fromNP h))).toList
  | .simples l => foldSets (l.map evalSimple)

def evalAst (r : Ast) : List BoundSet := r.flatMap evalAlt

theorem evalAst_cons (a : Alt) (r : Ast) : evalAst (a :: r) = evalAlt a ++ evalAst r := List.flatMap_cons

theorem evalAst_singleton (a : Alt) : evalAst [a] = evalAlt a := by rw [evalAst_cons]; exact List.append_nil _

theorem mem_evalAst {x : BoundSet} {r : Ast} : x ∈ evalAst r ↔ ∃ a ∈ r, x ∈ evalAlt a := List.mem_flatMap

/-! Hyphen ranges are compared as satisfaction, not with `TableOK`: valid hyphen bounds may leave no
interval (`2 - 1`), where the crate drops the alternative and npm's comparators admit nothing. -/

def optCompsSat (o : Option (List Comp)) (v : Version) : Bool :=
  match o with
  | some cs => compsSat cs v
  | none => false

theorem new_optSat (P Q : Pred) (v : Version) :
    (BoundSet.new (lo P) (up Q)).toList.any (·.satisfies v) = optCompsSat (checked (loComp P ++ upComp Q)) v := by
  by_cases hv : P.valid ∧ Q.valid
  · rw [checked_bounds_valid hv.1 hv.2]
    by_cases hne : nonEmpty P Q
    · rw [new_of_nonEmpty hv.1 hv.2 hne, Option.toList_some, List.any_cons, List.any_nil, Bool.or_false]
      exact sat_eq_comps P Q v
    · rw [(new_none_iff hv.1 hv.2).mpr hne]
      show false = compsSat (loComp P ++ upComp Q) v
      rw [← sat_eq_comps]
      refine (Bool.eq_false_iff.2 fun h => ?_).symm
      rw [satisfies_iff] at h
      exact hne (nonEmpty_of_within h.1)
  · rw [checked_bounds_invalid hv, new_of_invalid hv]
    rfl

theorem zero_le_release (v : Version) (hv : v.pre = []) : Version.mk3 0 0 0 ≤ v := by
  rw [le_iff_fields]
  simp only [Version.mk3, hv]
  have : (cmpPre [] []).isLE = true := rfl
  grind

theorem hyphen_table (lo hi : NP) (v : Version) :
    (evalAlt (.hyphen lo hi)).any (·.satisfies v) = (Alt.hyphen lo hi).sat v := by
  rw [evalAlt]
  show _ = optCompsSat (Npm.hyphen lo hi) v
  cases lo with
  | any =>
    cases hi with
    | any =>
      -- `x - x`: `>=0.0.0` against the empty comparator list: all releases, no prerelease
      show (BoundSet.new (.lo (inc (Version.mk3 0 0 0))) (up unb)).toList.any _ = optCompsSat (checked []) v
      rw [new_optSat]
      have : checked (loComp (inc (Version.mk3 0 0 0)) ++ upComp unb) = some [⟨.ge, Version.mk3 0 0 0⟩] := by
        rw [checked_bounds_valid (by unfold Pred.valid; decide) valid_unb]; rfl
      rw [this]
      simp only [optCompsSat, checked, List.all_nil, if_true, compsSat, List.all_cons, List.any_cons,
        List.any_nil, Bool.or_false, Bool.and_true, Bool.true_and]
      cases hp : v.pre.isEmpty with
      | true =>
        have := zero_le_release v (by simpa using hp)
        rw [admits_ge, (vle_iff _ _).mpr this]; rfl
      | false =>
        simp [Comp.tagged, Version.mk3]
    | maj M => exact new_optSat unb (exc (Version.mk4 (M + 1) 0 0 0)) v
    | majMin M m => exact new_optSat unb (exc (Version.mk4 M (m + 1) 0 0)) v
    | full M m p pre build => exact new_optSat unb (inc ⟨M, m, p, pre, build⟩) v
  -- with a lower partial the two sides are the comparator lists of the two bounds, whatever the upper
  | maj M => cases hi <;> exact new_optSat (inc (Version.mk3 M 0 0)) (hyphenUpper (fromNP _)) v
  | majMin M m => cases hi <;> exact new_optSat (inc (Version.mk3 M m 0)) (hyphenUpper (fromNP _)) v
  | full M m p pre build => cases hi <;> exact new_optSat (inc ⟨M, m, p, pre, build⟩) (hyphenUpper (fromNP _)) v

theorem evalAlt_hyphen_entry {l h : NP} {x : BoundSet} (hx : x ∈ evalAlt (.hyphen l h)) :
    TableEntry (fromNP l) (fromNP h) x := by
  simp only [evalAlt, Option.mem_toList] at hx
  cases l with
  | any => exact hyphenSet_none_entry hx _
  | maj M => exact hyphenSet_some_entry hx
  | majMin M m => exact hyphenSet_some_entry hx
  | full M m p pre build => exact hyphenSet_some_entry hx

end Semver
