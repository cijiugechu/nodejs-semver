import SemverProofs.Lemmas.Gate
import SemverSpec.Npm
/-!
# Intervals as npm comparator lists

`s.satisfies v = compsSat (loComp p ++ upComp q) v` for `s = (Lower p, Upper q)`: the crate's bounds
test plus prerelease gate is npm's "every comparator admits, and a tagged comparator on the same
tuple if the version is tagged".
-/
namespace Semver
open Pred Bound Spec Spec.Npm

def loComp : Pred → List Comp
  | inc l => [⟨.ge, l⟩]
  | exc l => [⟨.gt, l⟩]
  | unb => []

def upComp : Pred → List Comp
  | inc u => [⟨.le, u⟩]
  | exc u => [⟨.lt, u⟩]
  | unb => []

theorem vle_eq (a b : Version) : vle a b = (Spec.prec a b != .gt) := by rw [prec_eq]; rfl
theorem vlt_eq (a b : Version) : vlt a b = (Spec.prec a b == .lt) := by rw [prec_eq]; rfl

theorem prec_swap (a b : Version) : Spec.prec b a = (Spec.prec a b).swap := by
  rw [prec_eq, prec_eq]; exact cmp_swap a b

theorem sameTriple_eq (a b : Version) : Spec.sameTriple a b = sameTuple a b := rfl

theorem isPre_eq (v : Version) : v.isPre = !v.pre.isEmpty := rfl

theorem admits_ge (l v : Version) : (Comp.mk .ge l).admits v = vle l v := by
  simp only [Comp.admits, vle_eq, prec_swap l v]
  cases Spec.prec l v <;> rfl

theorem admits_gt (l v : Version) : (Comp.mk .gt l).admits v = vlt l v := by
  simp only [Comp.admits, vlt_eq, prec_swap l v]
  cases Spec.prec l v <;> rfl

theorem admits_le (u v : Version) : (Comp.mk .le u).admits v = vle v u := by
  simp only [Comp.admits, vle_eq]

theorem admits_lt (u v : Version) : (Comp.mk .lt u).admits v = vlt v u := by
  simp only [Comp.admits, vlt_eq]

theorem all_admits_loComp (p : Pred) (v : Version) :
    (loComp p).all (·.admits v) = true ↔ p.loCut < Cut.of v := by
  cases p <;> simp [loComp, admits_ge, admits_gt]

theorem all_admits_upComp (q : Pred) (v : Version) :
    (upComp q).all (·.admits v) = true ↔ Cut.of v < q.upCut := by
  cases q <;> simp [upComp, admits_le, admits_lt]

theorem within_eq_all (p q : Pred) (v : Version) :
    (BoundSet.mk (up q) (lo p)).within v = (loComp p ++ upComp q).all (·.admits v) := by
  rw [Bool.eq_iff_iff, within_mk, List.all_append, Bool.and_eq_true, all_admits_loComp, all_admits_upComp]

theorem any_tagged_loComp (p : Pred) (v : Version) : (loComp p).any (·.tagged v) = gBound p v := by
  cases p <;> simp [loComp, gBound, Comp.tagged, sameTriple_eq, sameTuple_comm v, isPre_eq]

theorem any_tagged_upComp (q : Pred) (v : Version) : (upComp q).any (·.tagged v) = gBound q v := by
  cases q <;> simp [upComp, gBound, Comp.tagged, sameTriple_eq, sameTuple_comm v, isPre_eq]

theorem gate_eq_any (p q : Pred) (v : Version) :
    (BoundSet.mk (up q) (lo p)).gate v = (loComp p ++ upComp q).any (·.tagged v) := by
  rw [gate_mk, List.any_append, any_tagged_loComp, any_tagged_upComp]

theorem sat_eq_comps (p q : Pred) (v : Version) :
    (BoundSet.mk (up q) (lo p)).satisfies v = compsSat (loComp p ++ upComp q) v := by
  simp only [BoundSet.satisfies, compsSat, within_eq_all, gate_eq_any, isPre_eq, Bool.not_not]

theorem compsSat_append (a b : List Comp) (v : Version) :
    compsSat (a ++ b) v =
      ((a.all (·.admits v) && b.all (·.admits v)) && (v.pre.isEmpty || a.any (·.tagged v) || b.any (·.tagged v))) := by
  simp [compsSat, List.all_append, List.any_append, Bool.or_assoc]

/-- an interval and a comparator list agree on one version: same bounds answer, and the same gate
answer whenever the version is a prerelease inside the bounds.  Stated per version because the `<=M`,
`<=M.m` rows agree with npm's only on the domain (`le_max_admits`, `le_minor_max_admits`) -/
def AgreeAt (s : BoundSet) (cs : List Comp) (v : Version) : Prop :=
  s.within v = cs.all (·.admits v) ∧
    (s.within v = true → v.isPre = true → s.gate v = cs.any (·.tagged v))

theorem agreeAt_self (p q : Pred) (v : Version) : AgreeAt ⟨up q, lo p⟩ (loComp p ++ upComp q) v :=
  ⟨within_eq_all p q v, fun _ _ => gate_eq_any p q v⟩

theorem comps_none_of_intersect_none {s o : BoundSet} {a b : List Comp} {v : Version} (hs : s.WF) (ho : o.WF)
    (h : s.intersect o = none) (ha : AgreeAt s a v) (hb : AgreeAt o b v) : compsSat (a ++ b) v = false := by
  have hn := intersect_none hs ho h v
  rw [compsSat_append, ← ha.1, ← hb.1]
  cases h1 : s.within v <;> cases h2 : o.within v <;> simp
  exact absurd ⟨h1, h2⟩ hn

end Semver
