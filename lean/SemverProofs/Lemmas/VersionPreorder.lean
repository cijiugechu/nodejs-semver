import SemverProofs.Lemmas.VersionOrder
import SemverModel.Bound
/-!
# `Version` as a linear preorder (for `grind`'s order reasoning)

`a ≤ b :⇔ (cmpVersion a b).isLE`, `a < b :⇔ cmpVersion a b = lt`.  Antisymmetry holds only up to
build metadata, so this is a linear *pre*order; `a ≈ b` is written `a ≤ b ∧ b ≤ a`.
The unprefixed names of this file (`le_def`, `cmp_swap`, `beq_iff` …) are about `Version` and `cmpVersion`.
-/
namespace Semver
open Std

instance : LE Version := ⟨fun a b => (cmpVersion a b).isLE = true⟩
instance : LT Version := ⟨fun a b => cmpVersion a b = .lt⟩

theorem le_def (a b : Version) : a ≤ b ↔ (cmpVersion a b).isLE = true := Iff.rfl
theorem lt_def (a b : Version) : a < b ↔ cmpVersion a b = .lt := Iff.rfl

instance : DecidableLE Version := fun a b => inferInstanceAs (Decidable ((cmpVersion a b).isLE = true))
instance : DecidableLT Version := fun a b => inferInstanceAs (Decidable (cmpVersion a b = .lt))

theorem cmp_swap (a b : Version) : cmpVersion b a = (cmpVersion a b).swap :=
  OrientedCmp.eq_swap (cmp := cmpVersion)

instance : IsLinearPreorder Version where
  le_refl a := by
    show (cmpVersion a a).isLE = true
    rw [ReflCmp.compare_self (cmp := cmpVersion)]; rfl
  le_trans a b c h1 h2 := TransCmp.isLE_trans (cmp := cmpVersion) h1 h2
  le_total a b := by
    show (cmpVersion a b).isLE = true ∨ (cmpVersion b a).isLE = true
    rw [cmp_swap a b]
    cases cmpVersion a b <;> simp

instance : LawfulOrderLT Version where
  lt_iff a b := by
    show cmpVersion a b = .lt ↔ (cmpVersion a b).isLE = true ∧ ¬ (cmpVersion b a).isLE = true
    rw [cmp_swap a b]
    cases cmpVersion a b <;> simp

@[simp] theorem vlt_iff (a b : Version) : vlt a b = true ↔ a < b := by
  simp [vlt, lt_def]

@[simp] theorem vle_iff (a b : Version) : vle a b = true ↔ a ≤ b := by
  simp only [vle, le_def]
  cases cmpVersion a b <;> simp

theorem cmp_gt_iff (a b : Version) : cmpVersion a b = .gt ↔ b < a :=
  OrientedCmp.gt_iff_lt

theorem cmp_eq_iff (a b : Version) : cmpVersion a b = .eq ↔ a ≤ b ∧ b ≤ a := by
  rw [le_def, le_def, cmp_swap a b]
  cases cmpVersion a b <;> simp

/-- `Version::eq` is precedence equality -/
theorem beq_iff (a b : Version) : a.beq b = true ↔ a ≤ b ∧ b ≤ a := by
  rw [← cmp_eq_iff, cmpVersion_eq_iff]
  simp [Version.beq, Spec.VEq, and_assoc]

theorem lt_iff_fields (a b : Version) : a < b ↔
    a.major < b.major ∨ a.major = b.major ∧ (a.minor < b.minor ∨ a.minor = b.minor ∧
      (a.patch < b.patch ∨ a.patch = b.patch ∧ cmpPre a.pre b.pre = .lt)) := by
  simp only [lt_def, cmpVersion_def, Ordering.then_eq_lt, Nat.compare_eq_lt, Nat.compare_eq_eq]

theorem le_iff_fields (a b : Version) : a ≤ b ↔
    a.major < b.major ∨ a.major = b.major ∧ (a.minor < b.minor ∨ a.minor = b.minor ∧
      (a.patch < b.patch ∨ a.patch = b.patch ∧ (cmpPre a.pre b.pre).isLE)) := by
  simp only [le_def, cmpVersion_def, Ordering.isLE_then_iff_or, Nat.compare_eq_lt, Nat.compare_eq_eq]

/-! Prerelease lists: `[0]` is least, `[]` (a release) greatest, `p ++ [0]` next after `p`.  `_le` lemmas state
`.isLE = true` as `le_iff_fields` does; a `_ne_lt` twin is the same fact read from the other side. -/

theorem cmpIdent_zero_le (x : Ident) : (cmpIdent (.num 0) x).isLE = true := by
  cases x <;> simp [cmpIdent, Ordering.isLE_iff_ne_gt, Nat.compare_eq_gt]

theorem compareLex_zero_le (b : Ident) (q : List Ident) :
    (List.compareLex cmpIdent [.num 0] (b :: q)).isLE = true := by
  rw [List.compareLex_cons_cons, Ordering.isLE_then_iff_and]
  exact ⟨cmpIdent_zero_le b, .inr List.isLE_compareLex_nil_left⟩

theorem compareLex_self_snoc (p : List Ident) (x : Ident) : List.compareLex cmpIdent p (p ++ [x]) = .lt := by
  induction p with
  | nil => rfl
  | cons a p ih => simp [List.compareLex, ReflCmp.compare_self (cmp := cmpIdent), ih]

theorem compareLex_snoc_le {p q : List Ident} (h : List.compareLex cmpIdent p q = .lt) :
    (List.compareLex cmpIdent (p ++ [.num 0]) q).isLE = true := by
  induction p generalizing q with
  | nil =>
    cases q with
    | nil => cases h
    | cons b q => exact compareLex_zero_le b q
  | cons a p ih =>
    cases q with
    | nil => cases h
    | cons b q =>
      rw [List.compareLex_cons_cons, Ordering.then_eq_lt] at h
      rw [List.cons_append, List.compareLex_cons_cons, Ordering.isLE_then_iff_or]
      exact h.imp_right (And.imp_right ih)

theorem cmpPre_snoc {p : List Ident} (hp : p ≠ []) : cmpPre p (p ++ [.num 0]) = .lt := by
  obtain ⟨a, p, rfl⟩ := List.exists_cons_of_ne_nil hp
  exact compareLex_self_snoc (a :: p) _

theorem cmpPre_snoc_le {p q : List Ident} (hp : p ≠ []) (h : cmpPre p q = .lt) :
    (cmpPre (p ++ [.num 0]) q).isLE = true := by
  obtain ⟨a, p, rfl⟩ := List.exists_cons_of_ne_nil hp
  cases q with
  | nil => rfl
  | cons b q => exact compareLex_snoc_le h

theorem cmpPre_zero_le (q : List Ident) : (cmpPre [.num 0] q).isLE = true := by
  cases q with
  | nil => rfl
  | cons b q => exact compareLex_zero_le b q

theorem cmpPre_ne_lt_zero (q : List Ident) : cmpPre q [.num 0] ≠ .lt :=
  OrientedCmp.not_lt_of_isLE (cmpPre_zero_le q)

theorem cmpPre_le_nil (p : List Ident) : (cmpPre p []).isLE = true := by
  cases p <;> rfl

theorem cmpPre_nil_ne_lt (q : List Ident) : cmpPre [] q ≠ .lt :=
  OrientedCmp.not_lt_of_isLE (cmpPre_le_nil q)

end Semver
