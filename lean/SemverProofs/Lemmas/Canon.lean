import SemverProofs.Lemmas.VersionText
/-!
# Canonical versions

`canon v`: components within MAX_SAFE_INTEGER, numeric identifiers below 2^64, alphanumeric
identifiers non-empty over `[0-9A-Za-z-]` and not a numeric literal that fits 64 bits: what prints as
text of the version grammar, and what that grammar denotes.  C12's and C13's round trips rest on it.
The names are those the statements of C12, C13 and C18 use.
-/
namespace Semver.C12
open Semver Spec

def IdCanon : Ident → Prop
  | .num n => n < U64
  | .alpha t => t ≠ [] ∧ t.all isIdChar = true ∧ ¬ (t.all isDigit = true ∧ valOf t < U64)

def canon (v : Version) : Prop :=
  v.major ≤ MAX_SAFE_INTEGER ∧ v.minor ≤ MAX_SAFE_INTEGER ∧ v.patch ≤ MAX_SAFE_INTEGER ∧
  (∀ i ∈ v.pre, IdCanon i) ∧ (∀ i ∈ v.build, IdCanon i)

theorem numText_render (n : Nat) (h : n ≤ MAX_SAFE_INTEGER) : NumText (renderNat n) n :=
  numText_iff.2 ⟨render_ne_nil n, all_digits_render n, valOf_render n, h⟩

theorem idText_render {i : Ident} (h : IdCanon i) : IdText i.render i := by
  rw [idText_iff]
  cases i with
  | num n =>
    have hd := all_digits_render n
    refine ⟨render_ne_nil n, ?_, ?_⟩
    · rw [List.all_eq_true] at hd ⊢
      exact fun c hc => isDigit_isIdChar (hd c hc)
    · show Ident.num n = classify (renderNat n)
      rw [classify_num hd (by rw [valOf_render]; exact h), valOf_render]
  | alpha t => exact ⟨h.1, h.2.1, (classify_alpha h.2.2).symm⟩

theorem tailText_render (i : Ident) (is : List Ident) (h : ∀ j ∈ i :: is, IdCanon j) :
    ∃ T, renderIds (i :: is) = i.render ++ T ∧ TailText T is := by
  induction is generalizing i with
  | nil => exact ⟨[], by simp [renderIds], .nil⟩
  | cons j js ih =>
    obtain ⟨T, hT, htail⟩ := ih j (fun k hk => h k (List.mem_cons_of_mem _ hk))
    exact ⟨'.' :: (j.render ++ T), by simp only [renderIds]; rw [hT],
      .cons (idText_render (h j (by simp))) htail⟩

theorem idsText_render (ids : List Ident) (hne : ids ≠ []) (h : ∀ j ∈ ids, IdCanon j) :
    IdsText (renderIds ids) ids := by
  obtain ⟨i, is, rfl⟩ := List.exists_cons_of_ne_nil hne
  obtain ⟨T, hT, htail⟩ := tailText_render i is h
  exact ⟨i.render, i, T, is, hT, rfl, idText_render (h i List.mem_cons_self), htail⟩

theorem preText_render (pre : List Ident) (h : ∀ j ∈ pre, IdCanon j) :
    PreText (if pre.isEmpty then [] else '-' :: renderIds pre) pre := by
  cases pre with
  | nil => exact Or.inl ⟨rfl, rfl⟩
  | cons i is => exact Or.inr (Or.inl ⟨_, rfl, idsText_render (i :: is) (by simp) h⟩)

theorem buildText_render (build : List Ident) (h : ∀ j ∈ build, IdCanon j) :
    BuildText (if build.isEmpty then [] else '+' :: renderIds build) build := by
  cases build with
  | nil => exact Or.inl ⟨rfl, rfl⟩
  | cons i is => exact Or.inr ⟨_, rfl, idsText_render (i :: is) (by simp) h⟩

theorem idCanon_of_idText {t : List Char} {i : Ident} (h : IdText t i) : IdCanon i := by
  obtain ⟨hne, hall, rfl⟩ := idText_iff.1 h
  by_cases hn : t.all isDigit = true ∧ valOf t < U64
  · rw [classify_num hn.1 hn.2]
    exact hn.2
  · rw [classify_alpha hn]
    exact ⟨hne, hall, hn⟩

theorem idCanon_of_tailText {T : List Char} {is : List Ident} (h : TailText T is) : ∀ j ∈ is, IdCanon j := by
  induction h with
  | nil => simp
  | cons hid _ ih => exact List.forall_mem_cons.2 ⟨idCanon_of_idText hid, ih⟩

theorem idCanon_of_idsText {T : List Char} {ids : List Ident} (h : IdsText T ids) : ∀ j ∈ ids, IdCanon j := by
  obtain ⟨t, i, T', is, rfl, rfl, hid, htail⟩ := h
  exact List.forall_mem_cons.2 ⟨idCanon_of_idText hid, idCanon_of_tailText htail⟩

theorem idCanon_of_preText {P : List Char} {p : List Ident} (h : PreText P p) : ∀ j ∈ p, IdCanon j := by
  rcases h with ⟨_, hp⟩ | ⟨T, _, hT⟩ | ⟨hT, _⟩
  · rw [hp]; simp
  · exact idCanon_of_idsText hT
  · exact idCanon_of_idsText hT

theorem idCanon_of_buildText {Q : List Char} {b : List Ident} (h : BuildText Q b) : ∀ j ∈ b, IdCanon j := by
  rcases h with ⟨_, hp⟩ | ⟨T, _, hT⟩
  · rw [hp]; simp
  · exact idCanon_of_idsText hT

theorem canon_of_versionLang {s : List Char} {v : Version} (h : VersionLang s v) : canon v := by
  obtain ⟨_, pfx, b1, A, B, C, P, Q, b2, _, _, _, _, hA, hB, hC, hP, hQ⟩ := h
  exact ⟨hA.2.2.2, hB.2.2.2, hC.2.2.2, idCanon_of_preText hP, idCanon_of_buildText hQ⟩

end Semver.C12
