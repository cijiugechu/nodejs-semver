import SemverProofs.Lemmas.VersionPreorder
/-!
# Cuts: the positions that interval bounds and versions occupy in the precedence order

`>=v` and `<v` stand just before the versions equivalent to `v`, `>v` and `<=v` just after them, a
version stands on itself, an absent lower bound below everything and an absent upper bound above
everything.  With bounds and versions placed on this one line, membership, emptiness, inclusion and
overlap of intervals are comparisons of cuts, and `grind` decides them as it does for `Version`.

Three sides, not two: with the version itself on the line, `v` lies in an interval exactly when
`lower < v < upper`, and no fact about the neighbours of `v` is needed.  The order is the syntactic
one of `impl Ord for Bound`: `>a` and `>=b` are different cuts even when `b` is the immediate
successor of `a`, although no version separates them.
-/
namespace Semver
open Std

inductive Side where
  | before
  | on
  | after

def Side.rank : Side → Nat
  | .before => 0
  | .on => 1
  | .after => 2

inductive Cut where
  | bot
  | mk (v : Version) (s : Side)
  | top

namespace Cut

protected def le : Cut → Cut → Prop
  | bot, _ => True
  | _, top => True
  | mk a s, mk b t => a < b ∨ (a ≤ b ∧ s.rank ≤ t.rank)
  | _, _ => False

protected def lt : Cut → Cut → Prop
  | top, _ => False
  | _, bot => False
  | mk a s, mk b t => a < b ∨ (a ≤ b ∧ s.rank < t.rank)
  | _, _ => True

instance : LE Cut := ⟨Cut.le⟩
instance : LT Cut := ⟨Cut.lt⟩

theorem le_def (x y : Cut) : x ≤ y ↔ Cut.le x y := Iff.rfl
theorem lt_def (x y : Cut) : x < y ↔ Cut.lt x y := Iff.rfl

instance : IsLinearPreorder Cut where
  le_refl x := by
    cases x with
    | bot | top => trivial
    | mk a s => exact Or.inr ⟨Std.le_refl a, Nat.le_refl _⟩
  le_trans x y z h1 h2 := by
    cases x with
    | bot => trivial
    | top => cases y <;> first | exact absurd h1 id | exact h2
    | mk a s =>
      cases z with
      | top => trivial
      | bot => cases y <;> first | exact absurd h2 id | exact absurd h1 id
      | mk c u =>
        cases y with
        | bot => exact absurd h1 id
        | top => exact absurd h2 id
        | mk b t =>
          simp only [le_def, Cut.le] at *
          grind
  le_total x y := by
    cases x <;> cases y <;> simp only [le_def, Cut.le] <;> grind

instance : LawfulOrderLT Cut where
  lt_iff x y := by
    cases x <;> cases y <;> simp only [le_def, lt_def, Cut.le, Cut.lt] <;> grind

-- for the `if … < … then` in the statements that compute `new` and `difference`
instance : DecidableLT Cut := fun x y => by
  cases x <;> cases y <;> simp only [lt_def, Cut.lt] <;> infer_instance

def of (v : Version) : Cut := mk v .on

end Cut

open Pred

def Pred.loCut : Pred → Cut
  | inc v => .mk v .before
  | exc v => .mk v .after
  | unb => .bot

def Pred.upCut : Pred → Cut
  | inc v => .mk v .after
  | exc v => .mk v .before
  | unb => .top

theorem ne_unb_of_lt_loCut {p : Pred} {c : Cut} (h : c < p.loCut) : p ≠ unb := by
  rintro rfl
  cases c <;> exact h

theorem ne_unb_of_upCut_lt {p : Pred} {c : Cut} (h : p.upCut < c) : p ≠ unb := by
  rintro rfl
  cases c <;> exact h

/-- a flipped predicate bounds the complement: it occupies, as an upper bound, the position the
original has as a lower bound -/
theorem upCut_flip {p : Pred} (h : p ≠ unb) : p.flip.upCut = p.loCut := by
  cases p <;> first | rfl | exact absurd rfl h

theorem loCut_flip {p : Pred} (h : p ≠ unb) : p.flip.loCut = p.upCut := by
  cases p <;> first | rfl | exact absurd rfl h

@[simp] theorem Cut.of_lt_of (a b : Version) : Cut.of a < Cut.of b ↔ a < b := by
  simp [Cut.of, Cut.lt_def, Cut.lt]

@[simp] theorem Cut.of_le_of (a b : Version) : Cut.of a ≤ Cut.of b ↔ a ≤ b := by
  simp [Cut.of, Cut.le_def, Cut.le]; grind

@[simp] theorem loCut_inc_lt (l v : Version) : (inc l).loCut < Cut.of v ↔ l ≤ v := by
  simp [Pred.loCut, Cut.of, Cut.lt_def, Cut.lt, Side.rank]; grind

@[simp] theorem loCut_exc_lt (l v : Version) : (exc l).loCut < Cut.of v ↔ l < v := by
  simp [Pred.loCut, Cut.of, Cut.lt_def, Cut.lt, Side.rank]

@[simp] theorem loCut_unb_lt (v : Version) : unb.loCut < Cut.of v := trivial

@[simp] theorem lt_upCut_inc (u v : Version) : Cut.of v < (inc u).upCut ↔ v ≤ u := by
  simp [Pred.upCut, Cut.of, Cut.lt_def, Cut.lt, Side.rank]; grind

@[simp] theorem lt_upCut_exc (u v : Version) : Cut.of v < (exc u).upCut ↔ v < u := by
  simp [Pred.upCut, Cut.of, Cut.lt_def, Cut.lt, Side.rank]

@[simp] theorem lt_upCut_unb (v : Version) : Cut.of v < unb.upCut := trivial

/-- a version is never level with a bound: it lies on one side of it or on the other -/
theorem loCut_lt_or_gt (p : Pred) (v : Version) : p.loCut < Cut.of v ∨ Cut.of v < p.loCut := by
  cases p <;> simp [Pred.loCut, Cut.of, Cut.lt_def, Cut.lt, Side.rank] <;> grind

theorem upCut_lt_or_gt (p : Pred) (v : Version) : p.upCut < Cut.of v ∨ Cut.of v < p.upCut := by
  cases p <;> simp [Pred.upCut, Cut.of, Cut.lt_def, Cut.lt, Side.rank] <;> grind

end Semver
