import SemverProofs.Lemmas.BoundSets
/-!
# Range-level set operations (lists of alternatives)

`Range::intersect` and `Range::difference` are each followed once, for an arbitrary invariant `P` of
intervals that the interval operation hands on (`Range.intersect_inv`, `Range.difference_inv`); the
statements for well-formed ranges and for printable ones are the two instances.
-/
namespace Semver
open Pred Bound Std

/-- what every `Range` built by the crate is: at least one alternative, all well-formed -/
def Range.WF (r : Range) : Prop := r ≠ [] ∧ ∀ s ∈ r, s.WF

namespace C08

/-- `within` of an optional result (`None` = the empty set) -/
def withinOpt (r : Option Range) (v : Version) : Bool :=
  match r with
  | none => false
  | some r => Range.within r v

end C08

theorem Range.within_iff (r : Range) (v : Version) :
    Range.within r v = true ↔ ∃ s ∈ r, s.within v = true := by
  simp [Range.within, List.any_eq_true]

theorem Range.satisfies_iff (r : Range) (v : Version) :
    Range.satisfies r v = true ↔ ∃ s ∈ r, s.satisfies v = true := by
  simp [Range.satisfies, List.any_eq_true]

theorem mem_intersectSets {a b : Range} {r : BoundSet} :
    r ∈ Range.intersectSets a b ↔ ∃ x ∈ a, ∃ y ∈ b, x.intersect y = some r := by
  simp [Range.intersectSets, List.mem_flatMap, List.mem_filterMap]

theorem intersectSets_within {a b : Range} (ha : ∀ s ∈ a, s.WF) (hb : ∀ s ∈ b, s.WF) (v : Version) :
    (∃ r ∈ Range.intersectSets a b, r.within v = true) ↔
      (∃ x ∈ a, x.within v = true) ∧ (∃ y ∈ b, y.within v = true) := by
  constructor
  · intro ⟨r, hr, hv⟩
    obtain ⟨x, hx, y, hy, h⟩ := mem_intersectSets.mp hr
    have := (intersect_some (ha x hx) (hb y hy) h).2 v
    exact ⟨⟨x, hx, (this.mp hv).1⟩, ⟨y, hy, (this.mp hv).2⟩⟩
  · intro ⟨⟨x, hx, hxv⟩, ⟨y, hy, hyv⟩⟩
    cases h : x.intersect y with
    | none => exact absurd ⟨hxv, hyv⟩ (intersect_none (ha x hx) (hb y hy) h v)
    | some r =>
      refine ⟨r, mem_intersectSets.mpr ⟨x, hx, y, hy, h⟩, ?_⟩
      exact ((intersect_some (ha x hx) (hb y hy) h).2 v).mpr ⟨hxv, hyv⟩

theorem Range.intersect_eq_some {a b r : Range} :
    Range.intersect a b = some r ↔ r = Range.intersectSets a b ∧ r ≠ [] := by
  unfold Range.intersect
  cases Range.intersectSets a b
  · simp
  · simpa [eq_comm] using fun h => h ▸ List.cons_ne_nil _ _

theorem Range.intersect_eq_none {a b : Range} :
    Range.intersect a b = none ↔ Range.intersectSets a b = [] := by
  unfold Range.intersect
  cases Range.intersectSets a b <;> simp

/-- an invariant of intervals that `BoundSet::intersect` hands on is handed on by `Range::intersect` -/
theorem Range.intersect_inv {P : BoundSet → Prop}
    (inter : ∀ {s o r : BoundSet}, P s → P o → s.intersect o = some r → P r) {a b r : Range}
    (ha : ∀ s ∈ a, P s) (hb : ∀ s ∈ b, P s) (h : Range.intersect a b = some r) : r ≠ [] ∧ ∀ s ∈ r, P s := by
  obtain ⟨rfl, hne⟩ := Range.intersect_eq_some.mp h
  refine ⟨hne, fun s hs => ?_⟩
  obtain ⟨x, hx, y, hy, hi⟩ := mem_intersectSets.mp hs
  exact inter (ha x hx) (hb y hy) hi

/-- `Range::intersect` on well-formed operands: the result, `None` being the empty set, is well-formed
and exactly `a ∩ b` on bounds membership -/
theorem Range.intersect_spec {a b : Range} (ha : a.WF) (hb : b.WF) :
    (∀ r, Range.intersect a b = some r → r.WF) ∧
      ∀ v, C08.withinOpt (Range.intersect a b) v = true ↔ (Range.within a v = true ∧ Range.within b v = true) := by
  refine ⟨fun r => Range.intersect_inv (fun hs ho hi => (intersect_some hs ho hi).1) ha.2 hb.2, fun v => ?_⟩
  rw [Range.within_iff a, Range.within_iff b, ← intersectSets_within ha.2 hb.2 v]
  cases h : Range.intersect a b with
  | none =>
    rw [Range.intersect_eq_none.mp h]
    exact ⟨fun h => absurd h Bool.false_ne_true, fun ⟨_, hr, _⟩ => absurd hr List.not_mem_nil⟩
  | some r =>
    obtain ⟨rfl, _⟩ := Range.intersect_eq_some.mp h
    exact Range.within_iff _ v

theorem Range.allowsAny_iff (a b : Range) :
    Range.allowsAny a b = true ↔ ∃ x ∈ a, ∃ y ∈ b, x.allowsAny y = true := by
  simp [Range.allowsAny, List.any_eq_true]

theorem Range.allowsAll_iff (a b : Range) :
    Range.allowsAll a b = true ↔ ∃ x ∈ a, ∃ y ∈ b, x.allowsAll y = true := by
  simp [Range.allowsAll, List.any_eq_true]

theorem Range.intersect_isSome (a b : Range) :
    (Range.intersect a b).isSome = true ↔ ∃ x ∈ a, ∃ y ∈ b, (x.intersect y).isSome = true := by
  rw [← Option.ne_none_iff_isSome, Ne, Range.intersect_eq_none, List.eq_nil_iff_forall_not_mem]
  simp only [mem_intersectSets, Option.isSome_iff_exists, Classical.not_forall, Classical.not_not]
  exact ⟨fun ⟨r, x, hx, y, hy, h⟩ => ⟨x, hx, y, hy, r, h⟩, fun ⟨x, hx, y, hy, r, h⟩ => ⟨r, x, hx, y, hy, h⟩⟩

theorem Range.allowsAny_eq_intersect {a b : Range} (ha : a.WF) (hb : b.WF) :
    Range.allowsAny a b = (Range.intersect a b).isSome := by
  rw [Bool.eq_iff_iff, Range.allowsAny_iff, Range.intersect_isSome]
  constructor <;> rintro ⟨x, hx, y, hy, h⟩ <;> refine ⟨x, hx, y, hy, ?_⟩
  · rwa [← Semver.allowsAny_eq_intersect (ha.2 x hx) (hb.2 y hy)]
  · rwa [Semver.allowsAny_eq_intersect (ha.2 x hx) (hb.2 y hy)]

theorem Range.allowsAny_symm {a b : Range} (ha : a.WF) (hb : b.WF) :
    Range.allowsAny a b = Range.allowsAny b a := by
  rw [Bool.eq_iff_iff, Range.allowsAny_iff, Range.allowsAny_iff]
  constructor <;> rintro ⟨x, hx, y, hy, h⟩ <;> refine ⟨y, hy, x, hx, ?_⟩
  · rwa [← Semver.allowsAny_symm (ha.2 x hx) (hb.2 y hy)]
  · rwa [Semver.allowsAny_symm (ha.2 y hy) (hb.2 x hx)]

theorem Range.allowsAll_refl {a : Range} (ha : a.WF) : Range.allowsAll a a = true := by
  obtain ⟨hne, hwf⟩ := ha
  obtain ⟨x, rest, rfl⟩ := List.exists_cons_of_ne_nil hne
  rw [Range.allowsAll_iff]
  exact ⟨x, List.mem_cons_self, x, List.mem_cons_self, Semver.allowsAll_refl (hwf x List.mem_cons_self)⟩

theorem Range.allowsAll_imp_allowsAny {a b : Range} (ha : a.WF) (hb : b.WF) (h : Range.allowsAll a b = true) :
    Range.allowsAny a b = true := by
  rw [Range.allowsAll_iff] at h
  rw [Range.allowsAny_iff]
  obtain ⟨x, hx, y, hy, hxy⟩ := h
  exact ⟨x, hx, y, hy, Semver.allowsAll_imp_allowsAny (ha.2 x hx) (hb.2 y hy) hxy⟩

/-! ### difference on ranges

The four nested loops of `Range::difference` are followed once, for an arbitrary invariant `P` of
intervals that implies well-formedness and that `BoundSet::difference` hands on to its pieces. -/

@[simp] theorem Range.within_nil (v : Version) : Range.within [] v = false := rfl

@[simp] theorem Range.within_cons (s : BoundSet) (l : List BoundSet) (v : Version) :
    Range.within (s :: l) v = (s.within v || Range.within l v) := rfl

@[simp] theorem Range.within_append (a b : List BoundSet) (v : Version) :
    Range.within (a ++ b) v = (Range.within a v || Range.within b v) := List.any_append

/-- `res` is a list (no panic) of intervals with `P` whose union is `S` -/
def Pieces (P : BoundSet → Prop) (res : Option (List BoundSet)) (S : Version → Prop) : Prop :=
  ∃ l, res = some l ∧ (∀ s ∈ l, P s) ∧ ∀ v, Range.within l v = true ↔ S v

theorem Pieces.congr {P : BoundSet → Prop} {res : Option (List BoundSet)} {S S' : Version → Prop}
    (h : Pieces P res S) (hS : ∀ v, S v ↔ S' v) : Pieces P res S' := by
  obtain ⟨l, e, hP, hl⟩ := h
  exact ⟨l, e, hP, fun v => (hl v).trans (hS v)⟩

section
variable {P : BoundSet → Prop} (hwf : ∀ s, P s → s.WF)
  (hd : ∀ s o l, P s → P o → s.difference o = .some l → ∀ x ∈ l, P x)
include hwf hd

theorem diffStepF_pieces {righty piece : BoundSet} {acc : Option (List BoundSet)} {S : Version → Prop}
    (hy : P righty) (hp : P piece) (hacc : Pieces P acc S) :
    Pieces P (diffStepF righty piece acc) (fun v => (piece.within v = true ∧ ¬ righty.within v = true) ∨ S v) := by
  obtain ⟨rest, rfl, hr, hs⟩ := hacc
  have spec := difference_spec (hwf _ hp) (hwf _ hy)
  have keep := hd piece righty
  unfold diffStepF
  cases hdiff : piece.difference righty with
  | panic => rw [hdiff] at spec; exact absurd spec id
  | none =>
    rw [hdiff] at spec
    exact ⟨rest, rfl, hr, fun v =>
      (hs v).trans ⟨Or.inr, fun h => h.elim (fun ⟨a, b⟩ => absurd (spec v a) b) id⟩⟩
  | some l =>
    rw [hdiff] at spec
    refine ⟨l ++ rest, rfl, fun s hs' => ?_, fun v => ?_⟩
    · rcases List.mem_append.mp hs' with h | h
      · exact keep l hp hy hdiff s h
      · exact hr s h
    · have h1 := spec.2 v
      rw [← Range.within_iff] at h1
      rw [Range.within_append, Bool.or_eq_true, h1, hs v]

theorem diffStep_pieces {rem : List BoundSet} {righty : BoundSet} (hr : ∀ s ∈ rem, P s) (hy : P righty) :
    Pieces P (diffStep rem righty) (fun v => Range.within rem v = true ∧ ¬ righty.within v = true) := by
  induction rem with
  | nil => exact ⟨[], rfl, by simp, by simp⟩
  | cons piece rest ih =>
    refine (diffStepF_pieces hwf hd hy (hr piece List.mem_cons_self) (ih (fun s hs => hr s (List.mem_cons_of_mem _ hs)))).congr ?_
    intro v
    rw [Range.within_cons, Bool.or_eq_true, or_and_right]

-- on the unfolded `foldl` of `diffAlt`, because the induction generalises the start
theorem diffFold_pieces (other : Range) (ho : ∀ s ∈ other, P s) {start : Option (List BoundSet)}
    {S : Version → Prop} (hs : Pieces P start S) :
    Pieces P (other.foldl (fun rem righty => rem.bind (diffStep · righty)) start)
      (fun v => S v ∧ ∀ y ∈ other, ¬ y.within v = true) := by
  induction other generalizing start S with
  | nil => exact hs.congr (by simp)
  | cons y rest ih =>
    obtain ⟨l, rfl, hl, hS⟩ := hs
    refine (ih (fun s hs' => ho s (List.mem_cons_of_mem _ hs')) (diffStep_pieces hwf hd hl (ho y List.mem_cons_self))).congr ?_
    intro v
    simp only [List.mem_cons, forall_eq_or_imp, hS v, and_assoc]

theorem diffPieces_pieces (a b : Range) (ha : ∀ s ∈ a, P s) (hb : ∀ s ∈ b, P s) :
    Pieces P (diffPieces a b) (fun v => Range.within a v = true ∧ ¬ Range.within b v = true) := by
  induction a with
  | nil => exact ⟨[], rfl, by simp, by simp⟩
  | cons lefty rest ih =>
    obtain ⟨p, hp, hP, hsem⟩ := ih (fun s hs => ha s (List.mem_cons_of_mem _ hs))
    obtain ⟨l, hl, hPl, hseml⟩ := diffFold_pieces hwf hd b hb (start := some [lefty]) (S := fun v => lefty.within v = true)
      ⟨[lefty], rfl, by simpa using ha lefty List.mem_cons_self, by simp⟩
    refine ⟨l ++ p, ?_, fun s hs => ?_, fun v => ?_⟩
    · show diffPiecesF b lefty (diffPieces rest b) = _
      rw [hp]
      unfold diffPiecesF diffAlt
      rw [hl]
    · rcases List.mem_append.mp hs with h | h
      · exact hPl s h
      · exact hP s h
    · rw [Range.within_append, Bool.or_eq_true, hseml v, hsem v]
      simp only [Range.within_cons, Bool.or_eq_true, or_and_right, Range.within_iff b v, not_exists, not_and]

/-- `Range::difference` never panics; its alternatives (`None`: the empty set) have `P` and cover exactly
`a \ b` on bounds membership -/
theorem Range.difference_inv (a b : Range) (ha : ∀ s ∈ a, P s) (hb : ∀ s ∈ b, P s) :
    ∃ res, Range.difference a b = some res ∧ (∀ r, res = some r → r ≠ [] ∧ ∀ s ∈ r, P s) ∧
      ∀ v, C08.withinOpt res v = true ↔ (Range.within a v = true ∧ ¬ Range.within b v = true) := by
  obtain ⟨p, hp, hP, hsem⟩ := diffPieces_pieces hwf hd a b ha hb
  unfold Range.difference
  rw [hp]
  cases p with
  -- no piece left: `Range.within [] v` and `withinOpt none v` are both `false`
  | nil => exact ⟨none, rfl, nofun, hsem⟩
  | cons x p => exact ⟨some (x :: p), rfl, fun r hr => Option.some.inj hr ▸ ⟨List.cons_ne_nil x p, hP⟩, hsem⟩

end

theorem Range.difference_spec {a b : Range} (ha : a.WF) (hb : b.WF) :
    ∃ res, Range.difference a b = some res ∧ (∀ r, res = some r → r.WF) ∧
      ∀ v, C08.withinOpt res v = true ↔ (Range.within a v = true ∧ ¬ Range.within b v = true) :=
  Range.difference_inv (P := BoundSet.WF) (fun _ h => h)
    (fun s o l hs ho h => by have := Semver.difference_spec hs ho; rw [h] at this; exact this.1) a b ha.2 hb.2

end Semver
