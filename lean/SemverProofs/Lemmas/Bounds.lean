import SemverProofs.Lemmas.Cut
import SemverModel.Range
/-!
# Table lemmas: every use of `impl Ord for Bound` rewritten as a comparison of cuts

The crate compares two lower bounds, two upper bounds, an upper with a lower bound (`allows_any`)
and a lower with an upper bound (`BoundSet::new`, behind three special arms).  Each of these uses
is a comparison of cuts (`lo_lt_lo` … `newCore_eq`); the table as a whole is not one: it calls
`>=v` and `<=v` equal, and `>v`, `<=v` each less than the other.  These are the only places where
the 36-entry table `cmpBound` is inspected.  Everything above them is order reasoning (`grind`) on
the linear preorder of cuts; `nonEmpty`, `upLt`, `predEqv` say the same in terms of versions.
-/
namespace Semver
open Pred Bound Std

/-- `Upper(p) < Upper(q)` -/
def upLt : Pred → Pred → Prop
  | unb, unb => False
  | unb, _ => False
  | _, unb => True
  | inc a, inc b => a < b
  | exc a, exc b => a < b
  | inc a, exc b => a < b
  | exc a, inc b => a ≤ b

/-- the emptiness rule of `BoundSet::new` for `(Lower(p), Upper(q))`: non-empty by the crate's rule -/
def nonEmpty : Pred → Pred → Prop
  | unb, _ => True
  | _, unb => True
  | inc a, inc b => a ≤ b
  | inc a, exc b => a < b
  | exc a, inc b => a < b
  | exc a, exc b => a < b

/-- bound equality (`PartialEq`) as a statement about version order -/
def predEqv : Pred → Pred → Prop
  | unb, unb => True
  | inc a, inc b => a ≤ b ∧ b ≤ a
  | exc a, exc b => a ≤ b ∧ b ≤ a
  | _, _ => False

theorem Bound.lt_iff (a b : Bound) : a.lt b = true ↔ cmpBound a b = .lt := by
  rw [Bound.lt, beq_iff_eq]

theorem Bound.le_iff (a b : Bound) : a.le b = true ↔ ¬ cmpBound a b = .gt := by
  rw [Bound.le, bne_iff_ne]

/-! Each sweep below has one shape: the table (or the fixed relation) unfolds at the constructors,
the comparison of cuts unfolds to a statement about versions, and what is left is order reasoning. -/

theorem lo_lt_lo (p q : Pred) : (lo p).lt (lo q) = true ↔ p.loCut < q.loCut := by
  rw [Bound.lt_iff]
  cases p <;> cases q <;> dsimp only [cmpBound, Pred.loCut] <;>
    simp only [Cut.lt_def, Cut.lt, Side.rank, vlt_iff, vle_iff, ← lt_def] <;> grind

theorem up_lt_up (p q : Pred) : (up p).lt (up q) = true ↔ p.upCut < q.upCut := by
  rw [Bound.lt_iff]
  cases p <;> cases q <;> dsimp only [cmpBound, Pred.upCut] <;>
    simp only [Cut.lt_def, Cut.lt, Side.rank, vlt_iff, vle_iff, ← lt_def] <;> grind

theorem lo_le_lo (p q : Pred) : (lo p).le (lo q) = true ↔ p.loCut ≤ q.loCut := by
  rw [Bound.le_iff]
  cases p <;> cases q <;> dsimp only [cmpBound, Pred.loCut] <;>
    simp only [Cut.le_def, Cut.le, Side.rank, vlt_iff, vle_iff, cmp_gt_iff] <;> grind

theorem up_le_up (p q : Pred) : (up p).le (up q) = true ↔ p.upCut ≤ q.upCut := by
  rw [Bound.le_iff]
  cases p <;> cases q <;> dsimp only [cmpBound, Pred.upCut] <;>
    simp only [Cut.le_def, Cut.le, Side.rank, vlt_iff, vle_iff, cmp_gt_iff] <;> grind

/-- the disjointness test of `allows_any` -/
theorem up_lt_lo (q p : Pred) : (up q).lt (lo p) = true ↔ q.upCut ≤ p.loCut := by
  rw [Bound.lt_iff]
  cases p <;> cases q <;> dsimp only [cmpBound, Pred.loCut, Pred.upCut] <;>
    simp only [Cut.le_def, Cut.le, Side.rank, vlt_iff, vle_iff, ← lt_def] <;> grind

theorem nonEmpty_iff (p q : Pred) : nonEmpty p q ↔ p.loCut < q.upCut := by
  cases p <;> cases q <;> dsimp only [nonEmpty, Pred.loCut, Pred.upCut] <;>
    simp only [Cut.lt_def, Cut.lt, Side.rank] <;> grind

theorem upLt_iff (p q : Pred) : upLt p q ↔ p.upCut < q.upCut := by
  cases p <;> cases q <;> dsimp only [upLt, Pred.upCut] <;>
    simp only [Cut.lt_def, Cut.lt, Side.rank] <;> grind

theorem predEqv_iff_lo (p q : Pred) : predEqv p q ↔ p.loCut ≤ q.loCut ∧ q.loCut ≤ p.loCut := by
  cases p <;> cases q <;> dsimp only [predEqv, Pred.loCut] <;>
    simp only [Cut.le_def, Cut.le, Side.rank] <;> grind

theorem predEqv_iff_up (p q : Pred) : predEqv p q ↔ p.upCut ≤ q.upCut ∧ q.upCut ≤ p.upCut := by
  cases p <;> cases q <;> dsimp only [predEqv, Pred.upCut] <;>
    simp only [Cut.le_def, Cut.le, Side.rank] <;> grind

theorem predBeq_iff (p q : Pred) : p.beq q = true ↔ predEqv p q := by
  cases p <;> cases q <;> simp [Pred.beq, predEqv, beq_iff]

theorem predEqv_of_not_upLt {p q : Pred} (h1 : ¬ upLt p q) (h2 : ¬ upLt q p) : predEqv p q := by
  rw [upLt_iff] at h1 h2
  rw [predEqv_iff_up]
  grind

/-- `BoundSet::new` after the validity check, with its three special arms: the emptiness rule -/
theorem newCore_eq (p q : Pred) :
    BoundSet.newCore (lo p) (up q) = if p.loCut < q.upCut then some ⟨up q, lo p⟩ else none := by
  -- `beq_iff` reads the `v1 == v2` of the three special arms, `beq_iff_eq` the `== .lt` of `Bound.lt`
  cases p <;> cases q <;> dsimp only [BoundSet.newCore, Bound.lt, cmpBound, Pred.loCut, Pred.upCut] <;>
    simp only [Cut.lt_def, Cut.lt, Side.rank, vlt_iff, vle_iff, beq_iff, beq_iff_eq, ← lt_def] <;> grind

/-- `Bound::is_valid` on the predicate (the kind of bound does not matter) -/
def Pred.valid (p : Pred) : Prop := (lo p).isValid = true

instance (p : Pred) : Decidable p.valid := inferInstanceAs (Decidable ((lo p).isValid = true))

theorem valid_up (p : Pred) : (up p).isValid = true ↔ p.valid := by
  cases p <;> simp [Pred.valid, Bound.isValid]

theorem valid_flip {p : Pred} (h : p.valid) : p.flip.valid := by
  cases p <;> simp_all [Pred.valid, Bound.isValid, Pred.flip]

theorem valid_unb : Pred.unb.valid := by simp [Pred.valid, Bound.isValid]

def predVersion : Pred → Option Version
  | inc v => some v
  | exc v => some v
  | unb => none

theorem valid_iff (p : Pred) : p.valid ↔
    ∀ v, predVersion p = some v → v.major ≤ MAX_SAFE_INTEGER ∧ v.minor ≤ MAX_SAFE_INTEGER ∧ v.patch ≤ MAX_SAFE_INTEGER := by
  cases p <;> simp [Pred.valid, Bound.isValid, predVersion, and_assoc]

def maxLo (p q : Pred) : Pred := if (lo q).lt (lo p) then p else q
def minUp (p q : Pred) : Pred := if (up q).lt (up p) then q else p

theorem max_lo (p q : Pred) : Bound.max (lo p) (lo q) = lo (maxLo p q) := by
  unfold Bound.max maxLo; split <;> rfl

theorem min_up (p q : Pred) : Bound.min (up p) (up q) = up (minUp p q) := by
  unfold Bound.min minUp; split <;> rfl

theorem maxLo_cases (p q : Pred) :
    (q.loCut < p.loCut ∧ maxLo p q = p) ∨ (¬ q.loCut < p.loCut ∧ maxLo p q = q) := by
  unfold maxLo
  rw [← lo_lt_lo]
  split <;> simp_all

theorem minUp_cases (p q : Pred) :
    (q.upCut < p.upCut ∧ minUp p q = q) ∨ (¬ q.upCut < p.upCut ∧ minUp p q = p) := by
  unfold minUp
  rw [← up_lt_up]
  split <;> simp_all

theorem loCut_maxLo_lt (p q : Pred) (c : Cut) : (maxLo p q).loCut < c ↔ p.loCut < c ∧ q.loCut < c := by
  have := maxLo_cases p q
  grind

theorem lt_upCut_minUp (p q : Pred) (c : Cut) : c < (minUp p q).upCut ↔ c < p.upCut ∧ c < q.upCut := by
  have := minUp_cases p q
  grind

theorem maxLo_lt_minUp {p q p' q' : Pred} (h1 : p.loCut < q.upCut) (h2 : p'.loCut < q'.upCut) :
    (maxLo p p').loCut < (minUp q q').upCut ↔ p.loCut < q'.upCut ∧ p'.loCut < q.upCut := by
  rw [loCut_maxLo_lt, lt_upCut_minUp, lt_upCut_minUp]
  simp only [h1, h2, true_and, and_true]

theorem maxLo_of_lt {p q : Pred} (h : p.loCut < q.loCut) : maxLo p q = q := by
  have := maxLo_cases p q
  grind

theorem minUp_of_lt {p q : Pred} (h : q.upCut < p.upCut) : minUp p q = q := by
  have := minUp_cases p q
  grind

theorem lt_lo_maxLo (p q : Pred) : (lo p).lt (lo (maxLo p q)) = true ↔ p.loCut < q.loCut := by
  have := maxLo_cases p q
  rw [lo_lt_lo]
  grind

theorem lt_up_minUp (p q : Pred) : (up (minUp p q)).lt (up p) = true ↔ q.upCut < p.upCut := by
  have := minUp_cases p q
  rw [up_lt_up]
  grind

theorem eq_unb_of_maxLo {p q : Pred} (h : maxLo p q = unb) : p = unb := by
  rcases maxLo_cases p q with ⟨_, e⟩ | ⟨hn, e⟩
  · exact e.symm.trans h
  · rw [e] at h
    subst h
    cases p <;> first | rfl | exact absurd trivial hn

theorem eq_unb_of_minUp {p q : Pred} (h : minUp p q = unb) : p = unb := by
  rcases minUp_cases p q with ⟨hlt, e⟩ | ⟨_, e⟩
  · rw [e] at h
    subst h
    exact absurd hlt id
  · exact e.symm.trans h

theorem valid_maxLo {p q : Pred} (hp : p.valid) (hq : q.valid) : (maxLo p q).valid := by
  unfold maxLo; split <;> assumption

theorem valid_minUp {p q : Pred} (hp : p.valid) (hq : q.valid) : (minUp p q).valid := by
  unfold minUp; split <;> assumption

theorem maxLo_unb_r (p : Pred) : maxLo p unb = p := by
  rcases maxLo_cases p unb with ⟨_, e⟩ | ⟨h, e⟩
  · exact e
  · cases p <;> first | exact e | exact absurd trivial h

theorem minUp_unb_l (q : Pred) : minUp unb q = q := by
  rcases minUp_cases unb q with ⟨_, e⟩ | ⟨h, e⟩
  · exact e
  · cases q <;> first | exact e | exact absurd trivial h

theorem predEqv_refl (p : Pred) : predEqv p p := by
  cases p
  · exact ⟨Std.le_refl _, Std.le_refl _⟩
  · exact ⟨Std.le_refl _, Std.le_refl _⟩
  · trivial

end Semver
