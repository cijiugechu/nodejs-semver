import SemverModel.Progress
import SemverSpec.Location
/-!
# `location()` at the end of a prefix

Every offset the parsers report is the byte length of a prefix `p` of the input.  There the crate's
`location()` (split at the byte, count) and the specification's walk `Spec.lineCol` both give the
newlines in `p` and the bytes after the last one.
-/
namespace Semver

def lineOf (p : List Char) : Nat := (p.filter (· == '\n')).length
def colOf (p : List Char) : Nat := utf8Len (p.reverse.takeWhile (· != '\n')).reverse

theorem location_prefix (p r : List Char) (k : EKind) :
    (SemverError.mk (p ++ r) (utf8Len p) k).location = some (lineOf p, colOf p) := by
  simp only [SemverError.location, splitAtByte_prefix, lineOf, colOf]

theorem colOf_snoc_newline (p : List Char) : colOf (p ++ ['\n']) = 0 := by
  simp [colOf, utf8Len_nil]

theorem colOf_snoc (p : List Char) (c : Char) (hc : c ≠ '\n') : colOf (p ++ [c]) = colOf p + c.utf8Size := by
  simp only [colOf, List.reverse_append, List.reverse_cons, List.reverse_nil, List.nil_append, List.cons_append]
  have : (c != '\n') = true := by simp [hc]
  simp only [List.takeWhile_cons, this, if_true, List.reverse_cons, utf8Len_append, utf8Len_cons, utf8Len_nil]
  omega

theorem lineOf_snoc (p : List Char) (c : Char) : lineOf (p ++ [c]) = lineOf p + (if c = '\n' then 1 else 0) := by
  simp only [lineOf, List.filter_append, List.length_append]
  by_cases h : c = '\n' <;> simp [h]

/-- the specification's walk, started after a prefix `q` already consumed -/
theorem lineColAux_prefix (q p r : List Char) :
    Spec.lineColAux (p ++ r) (utf8Len q + utf8Len p) (utf8Len q) (lineOf q) (colOf q) =
      some (lineOf (q ++ p), colOf (q ++ p)) := by
  induction p generalizing q with
  | nil =>
    simp only [List.nil_append, utf8Len_nil, Nat.add_zero, List.append_nil]
    cases r <;> simp [Spec.lineColAux]
  | cons c cs ih =>
    have hpos := c.utf8Size_pos
    rw [utf8Len_cons]
    simp only [List.cons_append]
    unfold Spec.lineColAux
    have h1 : ¬ utf8Len q = utf8Len q + (c.utf8Size + utf8Len cs) :=
      Nat.ne_of_lt (Nat.lt_add_of_pos_right (Nat.add_pos_left hpos _))
    have h2 : ¬ utf8Len q > utf8Len q + (c.utf8Size + utf8Len cs) := Nat.not_lt.2 (Nat.le_add_right _ _)
    rw [if_neg h1]
    simp only [h2, if_false]
    have hq : q ++ c :: cs = (q ++ [c]) ++ cs := by simp
    have hlen : utf8Len q + c.utf8Size = utf8Len (q ++ [c]) := by
      rw [utf8Len_append, utf8Len_cons, utf8Len_nil, Nat.add_zero]
    have hoff : utf8Len q + (c.utf8Size + utf8Len cs) = utf8Len (q ++ [c]) + utf8Len cs := by
      rw [← hlen, Nat.add_assoc]
    by_cases hc : c = '\n'
    · rw [if_pos hc]
      subst hc
      rw [hq, hoff, hlen]
      have := ih (q ++ ['\n'])
      rw [lineOf_snoc, colOf_snoc_newline] at this
      simpa using this
    · rw [if_neg hc]
      rw [hq, hoff, hlen]
      have := ih (q ++ [c])
      rw [lineOf_snoc, colOf_snoc q c hc] at this
      simpa [hc] using this

theorem lineCol_prefix (p r : List Char) : Spec.lineCol (p ++ r) (utf8Len p) = some (lineOf p, colOf p) := by
  have := lineColAux_prefix [] p r
  simpa [Spec.lineCol, utf8Len_nil, lineOf, colOf] using this

/-- at a prefix boundary the crate's `location()` and the independently stated line/column agree
(both are defined there: `location_prefix`, `lineCol_prefix`) -/
theorem location_eq_spec (p r : List Char) (k : EKind) :
    (SemverError.mk (p ++ r) (utf8Len p) k).location = Spec.lineCol (p ++ r) (utf8Len p) := by
  rw [location_prefix, lineCol_prefix]

end Semver
