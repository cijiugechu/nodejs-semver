import SemverProofs.Lemmas.PrintableInv
import SemverProofs.Lemmas.NpmParse
import SemverModel.RangeFmt
/-!
# Printed intervals are texts of the range grammar (towards C13)

The printed form of a canonical version spells a full partial, and a printed interval is a list of one
or two operator comparators (or a bare version): a text of the grammar of `SemverSpec/NpmText.lean`.
`Lemmas/NpmParse.lean` says what the parser makes of such a text; what is left here is the table
work: the fold of those comparators is the interval that was printed (`alt_render`), alternative by
alternative (`alts_render`), hence the round trip `parse_render`.
-/
namespace Semver
open Pred Bound Spec Spec.Npm

def fullPartial (v : Version) : Partial := ⟨some v.major, some v.minor, some v.patch, v.pre, v.build⟩

theorem fullPartial_toVersion (v : Version) : (fullPartial v).toVersion = v := by
  simp [fullPartial, Partial.toVersion]

def npOfVersion (v : Version) : NP := .full v.major v.minor v.patch v.pre v.build

theorem partialText_render (v : Version) (hc : C12.canon v) : PartialText v.render (npOfVersion v) := by
  obtain ⟨h1, h2, h3, h4, h5⟩ := hc
  have e : v.render = renderNat v.major ++ '.' :: (renderNat v.minor ++ '.' :: (renderNat v.patch ++
      ((if v.pre.isEmpty then [] else '-' :: renderIds v.pre) ++
        (if v.build.isEmpty then [] else '+' :: renderIds v.build)))) := by
    simp [Version.render, renderCore]
  rw [e]
  exact Or.inl (.three (.num (C12.numText_render _ h1)) (.num (C12.numText_render _ h2))
    (.num (C12.numText_render _ h3)) (C12.preText_render _ h4) (C12.buildText_render _ h5))

theorem simpleText_op (op : Op) (v : Version) (hc : C12.canon v) :
    SimpleText (.prim op (npOfVersion v)) (opText op ++ v.render) :=
  .prim (gap := []) rfl (partialText_render v hc)

theorem canon_valid {v : Version} (h : C12.canon v) : (inc v).valid ∧ (exc v).valid := by
  obtain ⟨h1, h2, h3, _⟩ := h
  constructor <;> simp [Pred.valid, Bound.isValid, h1, h2, h3]

/-- equal as values (`PartialEq`, i.e. up to build metadata of an exact version), with the same bounds
membership and gate -/
def SameSet (s' s : BoundSet) : Prop :=
  s'.beq s = true ∧ ∀ v, s'.within v = s.within v ∧ s'.gate v = s.gate v

theorem SameSet.refl {s : BoundSet} (h : s.WF) : SameSet s s := by
  obtain ⟨p, q, rfl, _⟩ := h
  exact ⟨(beq_mk _ _ _ _).2 ⟨predEqv_refl _, predEqv_refl _⟩, fun _ => ⟨rfl, rfl⟩⟩

/-- `[v, v2]` with `v == v2` (they may differ in build metadata) is `[v, v]` -/
theorem sameSet_exact {v v2 : Version} (hb : v.beq v2 = true) :
    SameSet ⟨up (inc v), lo (inc v)⟩ ⟨up (inc v2), lo (inc v)⟩ := by
  have hvv := (beq_iff v v2).mp hb
  refine ⟨(beq_mk _ _ _ _).2 ⟨hvv, Std.le_refl v, Std.le_refl v⟩, fun w => ⟨?_, ?_⟩⟩
  · rw [Bool.eq_iff_iff, within_mk, within_mk, lt_upCut_inc, lt_upCut_inc]
    exact and_congr_right fun _ => ⟨fun h => Std.le_trans h hvv.1, fun h => Std.le_trans h hvv.2⟩
  · rw [gate_mk, gate_mk]
    simp only [gBound]
    simp only [Version.beq, Bool.and_eq_true, beq_iff_eq] at hb
    obtain ⟨⟨⟨e1, e2⟩, e3⟩, e4⟩ := hb
    simp [Version.isPre, sameTuple, e1, e2, e3, e4]

/-- the table rows of `>=`, `>`, `<=`, `<` on a printed version -/
theorem evalSimple_op (v : Version) :
    evalSimple (.prim .ge (npOfVersion v)) = BoundSet.atLeast (inc v) ∧
    evalSimple (.prim .gt (npOfVersion v)) = BoundSet.atLeast (exc v) ∧
    evalSimple (.prim .le (npOfVersion v)) = BoundSet.atMost (inc v) ∧
    evalSimple (.prim .lt (npOfVersion v)) = BoundSet.atMost (exc v) := by
  cases v
  exact ⟨rfl, rfl, rfl, rfl⟩

theorem altText_op (op : Op) (v : Version) (hv : C12.canon v) :
    AltText (.simples [.prim op (npOfVersion v)]) (opText op ++ v.render) :=
  .simples (.one (simpleText_op op v hv))

theorem altText_op_op (op1 op2 : Op) (v1 v2 : Version) (h1 : C12.canon v1) (h2 : C12.canon v2) :
    AltText (.simples [.prim op1 (npOfVersion v1), .prim op2 (npOfVersion v2)])
      (opText op1 ++ v1.render ++ ([' '] ++ (opText op2 ++ v2.render))) :=
  .simples (.cons (simpleText_op op1 v1 h1) (by decide) (.one (simpleText_op op2 v2 h2)) (by simp))

theorem atLeast_eq_some {P : Pred} (hP : P.valid) : BoundSet.atLeast P = some ⟨up unb, lo P⟩ :=
  new_of_nonEmpty hP valid_unb (by cases P <;> simp [nonEmpty])

theorem atMost_eq_some {Q : Pred} (hQ : Q.valid) : BoundSet.atMost Q = some ⟨up Q, lo unb⟩ :=
  new_of_nonEmpty valid_unb hQ (by cases Q <;> simp [nonEmpty])

theorem foldSets_atLeast_atMost {P Q : Pred} (hP : P.valid) (hQ : Q.valid) (hN : nonEmpty P Q) :
    foldSets [BoundSet.atLeast P, BoundSet.atMost Q] = [⟨up Q, lo P⟩] := by
  rw [atLeast_eq_some hP, atMost_eq_some hQ]
  simp only [foldSets, List.filterMap_cons, List.filterMap_nil, id, List.foldl_cons, List.foldl_nil,
    Option.bind_some]
  rw [intersect_mk, maxLo_unb_r, minUp_unb_l, new_of_nonEmpty hP hQ hN]

/-- an interval that is the table row of one operator comparator and prints as it (`e`) -/
theorem alt_one (op : Op) {v : Version} (hv : C12.canon v) {s : BoundSet} {t : List Char}
    (hrow : evalSimple (.prim op (npOfVersion v)) = some s) (hwf : s.WF) (ht : s.render = some t)
    (e : s.render = some (opText op ++ v.render)) :
    ∃ a, AltText a t ∧ ∃ s', evalAlt a = [s'] ∧ SameSet s' s ∧ s'.render = some t := by
  obtain rfl := Option.some.inj (e.symm.trans ht)
  refine ⟨_, altText_op op v hv, s, ?_, .refl hwf, ht⟩
  show foldSets [evalSimple _] = _
  rw [hrow, foldSets_one]
  rfl

/-- the same for two bounds and two comparators -/
theorem alt_two (op1 op2 : Op) {v1 v2 : Version} (h1 : C12.canon v1) (h2 : C12.canon v2) {P Q : Pred}
    (hP : P.valid) (hQ : Q.valid) (hN : nonEmpty P Q)
    (row1 : evalSimple (.prim op1 (npOfVersion v1)) = BoundSet.atLeast P)
    (row2 : evalSimple (.prim op2 (npOfVersion v2)) = BoundSet.atMost Q) (hwf : BoundSet.WF ⟨up Q, lo P⟩)
    {t : List Char} (ht : BoundSet.render ⟨up Q, lo P⟩ = some t)
    (e : BoundSet.render ⟨up Q, lo P⟩ = some (opText op1 ++ v1.render ++ ([' '] ++ (opText op2 ++ v2.render)))) :
    ∃ a, AltText a t ∧ ∃ s', evalAlt a = [s'] ∧ SameSet s' ⟨up Q, lo P⟩ ∧ s'.render = some t := by
  obtain rfl := Option.some.inj (e.symm.trans ht)
  refine ⟨_, altText_op_op op1 op2 v1 v2 h1 h2, _, ?_, .refl hwf, ht⟩
  show foldSets [evalSimple _, evalSimple _] = _
  rw [row1, row2, foldSets_atLeast_atMost hP hQ hN]

/-- a printed alternative spells a comparator list whose fold is the interval that was printed (up to
`SameSet`), and prints the same -/
theorem alt_render (s : BoundSet) (hs : Good s) (t : List Char) (ht : s.render = some t) :
    ∃ a, AltText a t ∧ ∃ s', evalAlt a = [s'] ∧ SameSet s' s ∧ s'.render = some t := by
  have hwf := hs.1
  obtain ⟨p, q, rfl, vp, vq, hne, ip, iq, hnb⟩ := hs.shape
  have cp : ∀ {v}, predVersion p = some v → C12.canon v := canon_of_predIds vp ip
  have cq : ∀ {v}, predVersion q = some v → C12.canon v := canon_of_predIds vq iq
  have row := evalSimple_op
  cases p with
  | unb =>
    cases q with
    | unb => exact absurd ⟨rfl, rfl⟩ hnb
    | inc v => exact alt_one .le (cq rfl) ((row v).2.2.1.trans (atMost_eq_some vq)) hwf ht rfl
    | exc v => exact alt_one .lt (cq rfl) ((row v).2.2.2.trans (atMost_eq_some vq)) hwf ht rfl
  | inc v =>
    cases q with
    | unb => exact alt_one .ge (cp rfl) ((row v).1.trans (atLeast_eq_some vp)) hwf ht rfl
    | inc v2 =>
      by_cases hb : v.beq v2 = true
      · have hr : (if v.beq v2 = true then some v.render
            else some ('>' :: '=' :: (v.render ++ ' ' :: '<' :: '=' :: v2.render))) = some t := ht
        rw [if_pos hb] at hr
        obtain rfl := Option.some.inj hr
        -- exact version: parsed back as `exact v`
        refine ⟨.simples [.bare (npOfVersion v)], .simples (.one (.bare (partialText_render v (cp rfl)))), ?_⟩
        show ∃ s', foldSets [BoundSet.exact v] = [s'] ∧ _
        have he : BoundSet.exact v = some ⟨up (inc v), lo (inc v)⟩ := new_of_nonEmpty vp vp (Std.le_refl v)
        rw [he, foldSets_one]
        exact ⟨_, rfl, sameSet_exact hb, by simp [BoundSet.render, Version.beq]⟩
      · exact alt_two .ge .le (cp rfl) (cq rfl) vp vq hne (row v).1 (row v2).2.2.1 hwf ht (if_neg hb)
    | exc v2 => exact alt_two .ge .lt (cp rfl) (cq rfl) vp vq hne (row v).1 (row v2).2.2.2 hwf ht rfl
  | exc v =>
    cases q with
    | unb => exact alt_one .gt (cp rfl) ((row v).2.1.trans (atLeast_eq_some vp)) hwf ht rfl
    | inc v2 => exact alt_two .gt .le (cp rfl) (cq rfl) vp vq hne (row v).2.1 (row v2).2.2.1 hwf ht rfl
    | exc v2 => exact alt_two .gt .lt (cp rfl) (cq rfl) vp vq hne (row v).2.1 (row v2).2.2.2 hwf ht rfl

inductive SameRange : Range → Range → Prop
  | nil : SameRange [] []
  | cons {s' s : BoundSet} {r' r : Range} :
      SameSet s' s → SameRange r' r → SameRange (s' :: r') (s :: r)

/-- the printed form of a printable range spells a syntax tree on which the tables give the range back,
alternative by alternative -/
theorem alts_render (r : Range) (hne : r ≠ []) (hp : ∀ s ∈ r, Good s) (t : List Char)
    (ht : Range.render r = some t) :
    ∃ ast, AltsText ast t ∧ ast ≠ [] ∧ SameRange (evalAst ast) r ∧ Range.render (evalAst ast) = some t := by
  induction r generalizing t with
  | nil => exact absurd rfl hne
  | cons s rest ih =>
    cases rest with
    | nil =>
      simp only [Range.render] at ht
      obtain ⟨a, ha, s', h1, h2, h4⟩ := alt_render s (hp s List.mem_cons_self) t ht
      refine ⟨[a], .one ha, by simp, ?_, ?_⟩
      · rw [evalAst_singleton, h1]
        exact .cons h2 .nil
      · rw [evalAst_singleton, h1]
        exact h4
    | cons s2 rest2 =>
      simp only [Range.render] at ht
      cases ha : s.render with
      | none => rw [ha] at ht; cases ht
      | some a =>
        cases hb : Range.render (s2 :: rest2) with
        | none => rw [ha, hb] at ht; cases ht
        | some b =>
          rw [ha, hb] at ht
          simp only [Option.some.injEq] at ht
          subst ht
          obtain ⟨x, hx, s', h1, h2, h4⟩ := alt_render s (hp s List.mem_cons_self) a ha
          obtain ⟨ast, g1, gne, g2, g3⟩ :=
            ih (by simp) (fun x hx => hp x (by simp at hx ⊢; right; exact hx)) b hb
          have e : evalAst (x :: ast) = s' :: evalAst ast := by rw [evalAst_cons, h1]; rfl
          refine ⟨x :: ast, AltsTextG.cons hx ⟨[], [], rfl, rfl, rfl⟩ g1 gne, by simp, ?_, ?_⟩
          · rw [e]; exact .cons h2 g2
          · rw [e]
            cases hl : evalAst ast with
            | nil => rw [hl] at g2; cases g2
            | cons y ys =>
              rw [hl] at g3
              simp only [Range.render, h4, g3]

/-- the printed form of a printable range parses back to a range equal to it alternative by
alternative (as values, `PartialEq`), with the same bounds membership and gate, and the same printed
form -/
theorem parse_render (r : Range) (hne : r ≠ []) (hp : ∀ s ∈ r, Good s) (t : List Char)
    (ht : Range.render r = some t) :
    ∃ r', Range.parse t = .ok r' ∧ SameRange r' r ∧ Range.render r' = some t := by
  obtain ⟨ast, h1, _, h2, h3⟩ := alts_render r hne hp t ht
  have ha : altsOf t = evalAst ast := altsOf_textG garbageTok_ok ⟨[], t, [], by simp, rfl, rfl, h1⟩
  refine ⟨evalAst ast, parse_ok_iff_alts.mpr ⟨ha, ?_⟩, h2, h3⟩
  intro he
  rw [he] at h2
  cases h2
  exact hne rfl

end Semver
