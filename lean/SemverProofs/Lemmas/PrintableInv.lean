import SemverProofs.Lemmas.Canon
import SemverProofs.Lemmas.VersionParse
import SemverProofs.Lemmas.ParseWF
/-!
# The invariant of every range built by `Range::parse`, `intersect`, `difference` (towards C13)

`Good` = well-formed + at least one real bound + canonical identifiers in every bound version: the
intervals whose printed form parses back (`Lemmas/RangeText.lean`).  Parse results are good;
`intersect` and `difference` preserve it.  (`Range::any()`, the interval without a real bound, is not:
it prints as `*`, which parses to `>=0.0.0`.)
-/
-- `Bounded` is `C13`'s notion; the lemmas that need only the bounds stand with it
namespace Semver.C13
open Semver Pred Bound

def Bounded (s : BoundSet) : Prop := ¬ (s.lower = lo unb ∧ s.upper = up unb)

theorem bounded_new {P Q : Pred} {s : BoundSet} (h : BoundSet.new (lo P) (up Q) = some s)
    (hb : P ≠ unb ∨ Q ≠ unb) : Bounded s := by
  rw [new_eq_some h]
  intro ⟨h1, h2⟩
  simp at h1 h2
  rcases hb with hb | hb
  · exact hb h1
  · exact hb h2

theorem _root_.Semver.TableEntry.bounded {l u : Partial} {x : BoundSet} (h : TableEntry l u x) : Bounded x := by
  obtain ⟨P, Q, hn, _, _, hb⟩ := h
  exact bounded_new hn hb

theorem intersect_bounded {s o r : BoundSet} (hs : s.WF) (ho : o.WF) (h : s.intersect o = some r)
    (hb : Bounded s) : Bounded r := by
  obtain ⟨p, q, rfl, _⟩ := hs
  obtain ⟨p', q', rfl, _⟩ := ho
  rw [intersect_mk] at h
  rw [new_eq_some h]
  intro ⟨h1, h2⟩
  simp only [Bound.lo.injEq, Bound.up.injEq] at h1 h2
  exact hb ⟨by rw [eq_unb_of_maxLo h1], by rw [eq_unb_of_minUp h2]⟩

end Semver.C13

namespace Semver
open Pred Bound Spec

/-- the identifier part of `C12.canon`: what printing and re-parsing a version needs of its tags -/
def idsCanon (v : Version) : Prop := (∀ i ∈ v.pre, C12.IdCanon i) ∧ (∀ i ∈ v.build, C12.IdCanon i)

/-- `idsCanon` of the bound's version, if it has one -/
def predIds (p : Pred) : Prop := ∀ v, predVersion p = some v → idsCanon v

/-- the `(Lower, Upper)` shape with `predIds` bounds: the third conjunct of `Good` -/
def setIds (s : BoundSet) : Prop := ∃ p q, s = ⟨up q, lo p⟩ ∧ predIds p ∧ predIds q

theorem canon_of_predIds {p : Pred} (hv : p.valid) (hi : predIds p) {v : Version} (h : predVersion p = some v) :
    C12.canon v := by
  have := (valid_iff p).mp hv v h
  exact ⟨this.1, this.2.1, this.2.2, (hi v h).1, (hi v h).2⟩

theorem idsCanon_nil (a b c : Nat) : idsCanon ⟨a, b, c, [], []⟩ := ⟨by simp, by simp⟩
theorem idsCanon_zero (a b c : Nat) : idsCanon ⟨a, b, c, [.num 0], []⟩ := by
  refine ⟨fun i hi => ?_, by simp⟩
  cases List.mem_singleton.mp hi
  show 0 < U64
  decide

theorem predIds_unb : predIds unb := by intro v hv; cases hv
theorem predIds_inc {v : Version} (h : idsCanon v) : predIds (inc v) := by
  intro w hw; simp [predVersion] at hw; subst hw; exact h
theorem predIds_exc {v : Version} (h : idsCanon v) : predIds (exc v) := by
  intro w hw; simp [predVersion] at hw; subst hw; exact h

theorem setIds_new {P Q : Pred} {s : BoundSet} (h : BoundSet.new (lo P) (up Q) = some s)
    (hp : predIds P) (hq : predIds Q) : setIds s := ⟨P, Q, new_eq_some h, hp, hq⟩

/-- `idsCanon` on the parser's record type (`toVersion_ids`): what `partialVersion` guarantees of the
partials it reads -/
def Partial.idsOK (p : Partial) : Prop := (∀ i ∈ p.pre, C12.IdCanon i) ∧ (∀ i ∈ p.build, C12.IdCanon i)

theorem toVersion_ids {p : Partial} (h : p.idsOK) : idsCanon p.toVersion := h

theorem boundOf_ids {p : Partial} (hp : p.idsOK) {P : Pred} (h : BoundOf p P) : predIds P := by
  cases h with
  | unb => exact predIds_unb
  | rel a b c => exact predIds_inc (idsCanon_nil a b c)
  | inc => exact predIds_inc hp
  | exc => exact predIds_exc hp
  | incNoBuild => exact predIds_inc ⟨hp.1, by simp⟩

theorem dash0_ids {Q : Pred} (h : Dash0 Q) : predIds Q := by
  obtain ⟨a, b, c, rfl⟩ := h
  exact predIds_exc (idsCanon_zero a b c)

theorem extras_ids (s : List Char) (hd : ∀ c, s.head? = some c → isDigit c = false) :
    (∀ i ∈ (extras s).1.1, C12.IdCanon i) ∧ (∀ i ∈ (extras s).1.2, C12.IdCanon i) := by
  obtain ⟨P, Q, _, hP, hQ⟩ := extras_ok s hd
  exact ⟨C12.idCanon_of_preText hP, C12.idCanon_of_buildText hQ⟩

theorem dotComponent_num_head {s : List Char} {n : Nat} (h : (dotComponent s).1 = some (some n)) :
    ∀ c, (dotComponent s).2.head? = some c → isDigit c = false := by
  obtain ⟨t, _, hc⟩ := dotComponent_some h
  obtain ⟨hn, _⟩ | ⟨m, hm, hn⟩ := component_some hc
  · cases hn
  · cases hm
    obtain ⟨_, _, _, _, _, _, hh⟩ := number_ok hn
    exact hh

theorem partialVersion_ids {s r : List Char} {p : Partial} (h : partialVersion s = some (p, r)) : p.idsOK := by
  obtain ⟨_, _, r2, pa, r3, _, _, h3, _, hpatch, hpre, hbuild, _⟩ := partialCore_some (partialVersion_some h)
  rw [Partial.idsOK, hpre, hbuild]
  by_cases hp : p.patch.isSome = true
  · rw [if_pos hp, if_pos hp]
    -- a numeric patch: `extras` ran right after its digits
    obtain ⟨n, hn⟩ := Option.isSome_iff_exists.mp hp
    obtain ⟨_, _, hj⟩ := Option.bind_eq_some_iff.mp (hpatch.symm.trans hn)
    have hd := dotComponent_num_head (s := r2) (n := n) (by rw [h3]; exact Option.join_eq_some_iff.mp hj)
    rw [h3] at hd
    exact extras_ids _ hd
  · rw [if_neg hp, if_neg hp]
    exact ⟨nofun, nofun⟩

theorem Partial.Read.ids {p : Partial} (h : p.Read) : p.idsOK := by
  obtain ⟨_, _, hp⟩ := h
  exact partialVersion_ids hp

/-- the pieces `BoundSet::difference` returns, read off its four-way table `difference_mk`: the set
itself, or remainders bounded by a flipped bound of the other set -/
theorem difference_shape {p q p' q' : Pred} (vp : p.valid) (vq : q.valid) (vp' : p'.valid) (vq' : q'.valid)
    (h1 : p.loCut < q.upCut) (h2 : p'.loCut < q'.upCut) {l : List BoundSet}
    (h : (BoundSet.mk (up q) (lo p)).difference ⟨up q', lo p'⟩ = .some l) :
    ∀ x ∈ l, x = ⟨up q, lo p⟩ ∨ (x = ⟨up p'.flip, lo p⟩ ∧ p' ≠ unb) ∨ (x = ⟨up q, lo q'.flip⟩ ∧ q' ≠ unb) := by
  rw [difference_mk vp vq vp' vq' h1 h2] at h
  have := @ne_unb_of_lt_loCut p' p.loCut
  have := @ne_unb_of_upCut_lt q' q.upCut
  grind

theorem predIds_flip {p : Pred} (h : predIds p) : predIds p.flip := by
  cases p with
  | inc v => exact predIds_exc (h v rfl)
  | exc v => exact predIds_inc (h v rfl)
  | unb => exact predIds_unb

def Good (s : BoundSet) : Prop := s.WF ∧ C13.Bounded s ∧ setIds s

theorem Good.shape {s : BoundSet} (h : Good s) : ∃ p q, s = ⟨up q, lo p⟩ ∧ p.valid ∧ q.valid ∧ nonEmpty p q ∧
    predIds p ∧ predIds q ∧ ¬ (p = unb ∧ q = unb) := by
  obtain ⟨⟨p, q, rfl, vp, vq, hne⟩, hb, p', q', heq, ip, iq⟩ := h
  cases heq
  exact ⟨p, q, rfl, vp, vq, hne, ip, iq, fun ⟨h1, h2⟩ => hb (by simp [h1, h2])⟩

theorem flip_ne_unb {p : Pred} (h : p ≠ unb) : p.flip ≠ unb := by
  cases p with
  | unb => exact absurd rfl h
  | inc v => nofun
  | exc v => nofun

theorem difference_good {s o : BoundSet} (hs : Good s) (ho : Good o) {l : List BoundSet}
    (h : s.difference o = .some l) : ∀ x ∈ l, Good x := by
  obtain ⟨ws, bs, is⟩ := hs
  obtain ⟨wo, _, io⟩ := ho
  have hwf := difference_spec ws wo
  rw [h] at hwf
  obtain ⟨p, q, rfl, vp, vq, h1⟩ := ws.cut
  obtain ⟨p', q', rfl, vp', vq', h2⟩ := wo.cut
  obtain ⟨a, b, e1, ia, ib⟩ := is
  obtain ⟨a', b', e2, ia', ib'⟩ := io
  cases e1
  cases e2
  intro x hx
  refine ⟨hwf.1 x hx, ?_⟩
  -- a remainder keeps a bound of `s`, or gets a flipped (hence real) bound of `o`
  rcases difference_shape vp vq vp' vq' h1 h2 h x hx with rfl | ⟨rfl, hn⟩ | ⟨rfl, hn⟩
  · exact ⟨bs, p, q, rfl, ia, ib⟩
  · exact ⟨fun ⟨_, h2⟩ => flip_ne_unb hn (Bound.up.inj h2), p, p'.flip, rfl, ia, predIds_flip ia'⟩
  · exact ⟨fun ⟨h1, _⟩ => flip_ne_unb hn (Bound.lo.inj h1), q'.flip, q, rfl, predIds_flip ib', ib⟩

theorem intersect_good {s o r : BoundSet} (hs : Good s) (ho : Good o) (h : s.intersect o = some r) : Good r :=
  ⟨(intersect_some hs.1 ho.1 h).1, C13.intersect_bounded hs.1 ho.1 h hs.2.1, intersect_bounds hs.2.2 ho.2.2 h⟩

def RangeGood (r : Range) : Prop := r ≠ [] ∧ ∀ s ∈ r, Good s

theorem rangeGood_wf {r : Range} (h : RangeGood r) : r.WF := ⟨h.1, fun s hs => (h.2 s hs).1⟩

theorem simple_good (s : List Char) (x : BoundSet) (h : (simple s).1 = some x) : Good x := by
  obtain ⟨l, u, hl, hu, ht⟩ := simple_tableEntry h
  obtain ⟨P, Q, hn, hP, hQ, _⟩ := id ht
  exact ⟨ht.wf, ht.bounded, setIds_new hn (boundOf_ids hl.ids hP) (hQ.elim (boundOf_ids hu.ids) dash0_ids)⟩

theorem parse_good {s : List Char} {r : Range} (h : Range.parse s = .ok r) : RangeGood r :=
  ⟨(parse_ok_iff_alts.mp h).2, parse_closure simple_good intersect_good h⟩

theorem range_intersect_good {a b r : Range} (ha : RangeGood a) (hb : RangeGood b)
    (h : Range.intersect a b = some r) : RangeGood r :=
  Range.intersect_inv intersect_good ha.2 hb.2 h

theorem range_difference_good {a b r : Range} (ha : RangeGood a) (hb : RangeGood b)
    (h : Range.difference a b = some (some r)) : RangeGood r := by
  obtain ⟨res, e, hg, _⟩ := Range.difference_inv (P := Good) (fun _ h => h.1)
    (fun s o l hs ho h => difference_good hs ho h) a b ha.2 hb.2
  rw [h] at e
  cases e
  exact hg r rfl

end Semver
