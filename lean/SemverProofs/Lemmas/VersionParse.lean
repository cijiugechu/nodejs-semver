import SemverProofs.Lemmas.VersionText
/-!
# `extras`, `version_core` and `version` against the grammar; locality up to `extras`

`*_ok` and `*_spec` invert a result (`*_spec` also says where and how a production fails), `*_append`
is completeness, `*_local` says that a production leaves a `t` that cannot continue a version alone.
-/
namespace Semver
open Spec

theorem preRelease_ok {s r : List Char} {ids : List Ident} (h : preRelease s = .ok ids r) :
    ∃ P, s = P ++ r ∧ ((∃ T, P = '-' :: T ∧ IdsText T ids) ∨ (IdsText P ids ∧ ∀ t, s ≠ '-' :: t)) := by
  unfold preRelease at h
  split at h
  · next h' =>
    cases h
    obtain ⟨T, hs, hT⟩ := identList_ok h'
    unfold stripHyphen at hs
    split at hs
    · exact ⟨'-' :: T, by simp [hs], Or.inl ⟨T, rfl, hT⟩⟩
    · next hno => exact ⟨T, hs, Or.inr ⟨hT, fun t ht => hno t ht⟩⟩
  · cases h

theorem buildMeta_ok {s r : List Char} {ids : List Ident} (h : buildMeta s = .ok ids r) :
    ∃ T, s = '+' :: (T ++ r) ∧ IdsText T ids := by
  unfold buildMeta at h
  split at h
  · split at h
    · next h' =>
      cases h
      obtain ⟨T, hs, hT⟩ := identList_ok h'
      exact ⟨T, by rw [hs], hT⟩
    · cases h
  · cases h

theorem letter_of_idChar_not_digit_not_hyphen {c : Char} (h : isIdChar c = true) (h1 : isDigit c = false)
    (h2 : c ≠ '-') : isAlpha c = true := by
  simpa [isIdChar, h1, h2] using h

/-- `extras` follows `digit1`, hence the non-digit head: a hyphen-less prerelease then starts with a letter -/
theorem extras_ok (s : List Char) (hd : ∀ c, s.head? = some c → isDigit c = false) :
    ∃ P Q, s = P ++ (Q ++ (extras s).2) ∧ PreText P (extras s).1.1 ∧ BuildText Q (extras s).1.2 := by
  unfold extras
  split
  · next p r1 h1 =>
    obtain ⟨P, hs, hP⟩ := preRelease_ok h1
    have hpre : PreText P p := by
      rcases hP with ⟨T, rfl, hT⟩ | ⟨hT, hno⟩
      · exact Or.inr (Or.inl ⟨T, rfl, hT⟩)
      · obtain ⟨c, t, rfl, hic⟩ := idsText_head hT
        refine Or.inr (Or.inr ⟨hT, c, t, rfl, ?_⟩)
        apply letter_of_idChar_not_digit_not_hyphen hic (hd c (by rw [hs]; rfl))
        rintro rfl
        exact hno _ hs
    split
    · next h2 =>
      obtain ⟨T, hs2, hT⟩ := buildMeta_ok h2
      exact ⟨P, '+' :: T, by simp [hs, hs2], hpre, Or.inr ⟨T, rfl, hT⟩⟩
    · exact ⟨P, [], by simp [hs], hpre, Or.inl ⟨rfl, rfl⟩⟩
  · split
    · next h2 =>
      obtain ⟨T, hs2, hT⟩ := buildMeta_ok h2
      exact ⟨[], '+' :: T, by simp [hs2], Or.inl ⟨rfl, rfl⟩, Or.inr ⟨T, rfl, hT⟩⟩
    · exact ⟨[], [], by simp, Or.inl ⟨rfl, rfl⟩, Or.inl ⟨rfl, rfl⟩⟩

def extrasFollow (rest : List Char) : Prop :=
  ∀ c, rest.head? = some c → isIdChar c = false ∧ c ≠ '.' ∧ c ≠ '+'

theorem idFollow_of_extrasFollow {rest : List Char} (h : extrasFollow rest) : idFollow rest :=
  fun c hc => ⟨(h c hc).1, (h c hc).2.1⟩

theorem extrasFollow_not_digit {rest : List Char} (h : extrasFollow rest) :
    ∀ c, rest.head? = some c → isDigit c = false := by
  intro c hc
  have := (h c hc).1
  simp only [isIdChar, Bool.or_eq_false_iff] at this
  exact this.1.1

theorem extrasFollow_of_head {rest : List Char} (h : ∀ c, rest.head? = some c → isBlank c = true ∨ c = '|') :
    extrasFollow rest := by
  intro c hc
  rcases h c hc with hb | rfl
  · simp only [isBlank, Bool.or_eq_true, beq_iff_eq] at hb
    rcases hb with rfl | rfl <;> exact ⟨by decide, by decide, by decide⟩
  · exact ⟨by decide, by decide, by decide⟩

theorem extrasFollow_of_blanks {b : List Char} (hb : b.all isBlank = true) : extrasFollow b :=
  extrasFollow_of_head fun c hc => by
    cases b with
    | nil => cases hc
    | cons d ds =>
      obtain rfl : d = c := by simpa using hc
      exact Or.inl (by simp at hb; exact hb.1)

theorem idFollow_build {Q rest : List Char} {b : List Ident} (hQ : BuildText Q b) (hr : extrasFollow rest) :
    idFollow (Q ++ rest) := by
  rcases hQ with ⟨rfl, _⟩ | ⟨T, rfl, _⟩
  · exact idFollow_of_extrasFollow hr
  · exact forall_head_cons ⟨by decide, by decide⟩

theorem letter_not_digit {c : Char} (hl : letter c = true) : isDigit c = false := by
  simp only [letter, Bool.or_eq_true, Bool.and_eq_true, decide_eq_true_eq] at hl
  simp only [isDigit, Bool.and_eq_false_iff, decide_eq_false_iff_not, char_le_iff]
  have e1 : ('9' : Char).toNat = 57 := by decide
  omega

theorem head_not_digit_PQ {P Q rest : List Char} {p q : List Ident} (hP : PreText P p) (hQ : BuildText Q q)
    (hr : extrasFollow rest) : ∀ d, (P ++ (Q ++ rest)).head? = some d → isDigit d = false := by
  rcases hP with ⟨rfl, _⟩ | ⟨T, rfl, _⟩ | ⟨_, c, t, rfl, hl⟩
  · rcases hQ with ⟨rfl, _⟩ | ⟨T, rfl, _⟩
    · exact extrasFollow_not_digit hr
    · exact forall_head_cons (by decide)
  · exact forall_head_cons (by decide)
  · exact forall_head_cons (letter_not_digit hl)

theorem stripHyphen_ne {s : List Char} (h : ∀ u, s ≠ '-' :: u) : stripHyphen s = s := by
  unfold stripHyphen
  split
  · exact absurd rfl (h _)
  · rfl

theorem buildMeta_ne {s : List Char} (h : ∀ u, s ≠ '+' :: u) :
    buildMeta s = .err ⟨s, some "build version", none⟩ := by
  unfold buildMeta
  split
  · exact absurd rfl (h _)
  · rfl

/-- an optional production: read in full, or absent and the parser backtracks -/
theorem buildMeta_append {Q rest : List Char} {b : List Ident} (hQ : BuildText Q b) (hr : extrasFollow rest) :
    (Q = [] ∧ b = [] ∧ ∃ e, buildMeta rest = .err e) ∨ buildMeta (Q ++ rest) = .ok b rest := by
  rcases hQ with ⟨rfl, rfl⟩ | ⟨T, rfl, hT⟩
  · exact Or.inl ⟨rfl, rfl, _, buildMeta_ne fun u e => (hr '+' (by rw [e]; rfl)).2.2 rfl⟩
  · refine Or.inr ?_
    unfold buildMeta
    simp only [List.cons_append]
    rw [identList_append hT rest (idFollow_of_extrasFollow hr)]

theorem preRelease_err_of_head {s : List Char} (h : ∀ c, s.head? = some c → isIdChar c = false) :
    ∃ e, preRelease s = .err e := by
  have hs : stripHyphen s = s := stripHyphen_ne fun u e => absurd (h '-' (by rw [e]; rfl)) (by decide)
  obtain ⟨e, he⟩ := identifier_err_of_head h
  unfold preRelease identList
  rw [hs, he]
  exact ⟨_, rfl⟩

theorem preRelease_append {P rest : List Char} {p : List Ident} (hP : PreText P p) (hr : idFollow rest) :
    (P = [] ∧ p = [] ∧ ∃ e, preRelease rest = .err e) ∨ preRelease (P ++ rest) = .ok p rest := by
  rcases hP with ⟨rfl, rfl⟩ | ⟨T, rfl, hT⟩ | ⟨hT, c, t, rfl, hl⟩
  · exact Or.inl ⟨rfl, rfl, preRelease_err_of_head fun c hc => (hr c hc).1⟩
  · refine Or.inr ?_
    unfold preRelease
    simp only [List.cons_append, stripHyphen]
    rw [identList_append hT _ hr]
  · refine Or.inr ?_
    have hs : stripHyphen (c :: t ++ rest) = c :: t ++ rest :=
      stripHyphen_ne fun u e => by cases e; exact absurd hl (by decide)
    unfold preRelease
    rw [hs, identList_append hT _ hr]

theorem extras_append {P Q rest : List Char} {p b : List Ident} (hP : PreText P p) (hQ : BuildText Q b)
    (hr : extrasFollow rest) : extras (P ++ (Q ++ rest)) = ((p, b), rest) := by
  unfold extras
  rcases preRelease_append hP (idFollow_build hQ hr) with ⟨rfl, rfl, e, he⟩ | hp <;>
    rcases buildMeta_append hQ hr with ⟨rfl, rfl, e', he'⟩ | hb
  · simp only [List.nil_append] at he ⊢; rw [he, he']
  · simp only [List.nil_append] at he ⊢; rw [he, hb]
  · simp only [List.nil_append] at hp ⊢; rw [hp]; simp only; rw [he']
  · rw [hp]; simp only; rw [hb]

theorem dot_not_digit : ∀ c, ('.' :: (l : List Char)).head? = some c → isDigit c = false :=
  forall_head_cons (by decide)

theorem dot_ok {s r : List Char} {u : Unit} (h : dot s = .ok u r) : s = '.' :: r := by
  unfold dot at h
  split at h <;> cases h
  rfl

theorem dot_err {s : List Char} {e : PErr} (h : dot s = .err e) : e.rest = s ∧ numKind e.kind := by
  unfold dot at h
  split at h <;> cases h
  exact ⟨rfl, Or.inl rfl⟩

theorem err_within {e : PErr} {r s : List Char} (c : String) (h : e.rest = r ∧ numKind e.kind) (hs : r <:+ s) :
    (e.withCtx c).rest <:+ s ∧ numKind (e.withCtx c).kind :=
  ⟨h.1 ▸ hs, h.2⟩

theorem versionCore_spec (s : List Char) :
    match versionCore s with
    | .ok (a, b, c) r => ∃ A B C, s = A ++ '.' :: (B ++ '.' :: (C ++ r)) ∧ NumText A a ∧ NumText B b ∧
        NumText C c ∧ (∀ d, r.head? = some d → isDigit d = false)
    | .err e => e.rest <:+ s ∧ numKind e.kind := by
  unfold versionCore
  cases h1 : number s with
  | err e => exact err_within _ (number_err h1) (List.suffix_refl _)
  | ok a r1 =>
  obtain ⟨A, rfl, a1, a2, a3, a4, _⟩ := number_ok h1
  simp only
  cases h2 : dot r1 with
  | err e => exact err_within _ (dot_err h2) (List.suffix_append _ _)
  | ok _ r2 =>
  obtain rfl := dot_ok h2
  simp only
  cases h3 : number r2 with
  | err e => exact err_within _ (number_err h3) ⟨A ++ ['.'], by simp⟩
  | ok b r3 =>
  obtain ⟨B, rfl, b1, b2, b3, b4, _⟩ := number_ok h3
  simp only
  cases h4 : dot r3 with
  | err e => exact err_within _ (dot_err h4) ⟨A ++ '.' :: B, by simp⟩
  | ok _ r4 =>
  obtain rfl := dot_ok h4
  simp only
  cases h5 : number r4 with
  | err e => exact err_within _ (number_err h5) ⟨A ++ '.' :: (B ++ ['.']), by simp⟩
  | ok c r5 =>
  obtain ⟨C, rfl, c1, c2, c3, c4, hr⟩ := number_ok h5
  exact ⟨A, B, C, rfl, numText_iff.2 ⟨a2, a1, a3, a4⟩, numText_iff.2 ⟨b2, b1, b3, b4⟩,
    numText_iff.2 ⟨c2, c1, c3, c4⟩, hr⟩

theorem versionCore_ok {s r : List Char} {a b c : Nat} (h : versionCore s = .ok (a, b, c) r) :
    ∃ A B C, s = A ++ '.' :: (B ++ '.' :: (C ++ r)) ∧ NumText A a ∧ NumText B b ∧ NumText C c ∧
      (∀ d, r.head? = some d → isDigit d = false) := by
  have := versionCore_spec s
  rwa [h] at this

theorem versionCore_err {s : List Char} {e : PErr} (h : versionCore s = .err e) :
    e.rest <:+ s ∧ numKind e.kind := by
  have := versionCore_spec s
  rwa [h] at this

theorem versionCore_append {A B C rest : List Char} {a b c : Nat} (hA : NumText A a) (hB : NumText B b)
    (hC : NumText C c) (hr : ∀ d, rest.head? = some d → isDigit d = false) :
    versionCore (A ++ '.' :: (B ++ '.' :: (C ++ rest))) = .ok (a, b, c) rest := by
  simp only [versionCore, dot, number_append hA dot_not_digit, number_append hB dot_not_digit,
    number_append hC hr]

theorem stripVV_split (s : List Char) : ∃ pfx, s = pfx ++ stripVV s ∧ (pfx = [] ∨ pfx = ['v'] ∨ pfx = ['V']) := by
  unfold stripVV
  split
  · exact ⟨['v'], rfl, Or.inr (Or.inl rfl)⟩
  · exact ⟨['V'], rfl, Or.inr (Or.inr rfl)⟩
  · exact ⟨[], rfl, Or.inl rfl⟩

theorem dropBlanks_stripVV_append {pfx b1 A rest : List Char} (hpfx : pfx = [] ∨ pfx = ['v'] ∨ pfx = ['V'])
    (hb1 : b1.all isBlank = true) (hA : A.all isDigit = true) (hne : A ≠ []) :
    dropBlanks (stripVV (pfx ++ (b1 ++ (A ++ rest)))) = A ++ rest := by
  have hv : ∀ (x : Char) (l : List Char), isBlank x = true ∨ isDigit x = true → stripVV (x :: l) = x :: l := by
    intro x l hx
    unfold stripVV
    split
    · next heq => cases heq; exact absurd hx (by decide)
    · next heq => cases heq; exact absurd hx (by decide)
    · rfl
  have hs : stripVV (pfx ++ (b1 ++ (A ++ rest))) = b1 ++ (A ++ rest) := by
    rcases hpfx with rfl | rfl | rfl
    · cases b1 with
      | nil =>
        obtain ⟨a, as, rfl, ha, _⟩ := exists_cons_of_all hne hA
        exact hv a _ (Or.inr ha)
      | cons x xs => exact hv x _ (Or.inl (by simp at hb1; exact hb1.1))
    · rfl
    · rfl
  rw [hs, dropBlanks_append b1 _ hb1 (head_digit_not_blank hA hne)]

/-- `version()` in one pass; the length is checked by `Version::parse`, hence the hypothesis in the first arm -/
theorem versionP_spec (s : List Char) :
    match versionP s with
    | .ok v _ => utf8Length s ≤ 256 → VersionLang s v
    | .err e => e.ctx = some "version" ∧ e.rest <:+ s ∧ numKind e.kind := by
  obtain ⟨pfx, hp, hpfx⟩ := stripVV_split s
  obtain ⟨b1, hb1, hb1all⟩ := dropBlanks_split (stripVV s)
  have s2 : dropBlanks (stripVV s) <:+ s := ⟨pfx ++ b1, by rw [List.append_assoc, ← hb1, ← hp]⟩
  unfold versionP
  simp only
  cases hcore : versionCore (dropBlanks (stripVV s)) with
  | err e => exact ⟨rfl, ((versionCore_err hcore).1.trans s2), (versionCore_err hcore).2⟩
  | ok abc r5 =>
    obtain ⟨a, b, c⟩ := abc
    obtain ⟨A, B, C, hs, hA, hB, hC, hnd⟩ := versionCore_ok hcore
    obtain ⟨P, Q, hx, hP, hQ⟩ := extras_ok r5 hnd
    have s3 : dropBlanks (extras r5).2 <:+ s :=
      (dropBlanks_suffix _).trans ((extras_suffix r5).trans
        (List.IsSuffix.trans ⟨A ++ '.' :: (B ++ '.' :: C), by rw [hs]; simp⟩ s2))
    simp only
    cases hnil : dropBlanks (extras r5).2 with
    | nil =>
      intro hlen
      refine ⟨hlen, pfx, b1, A, B, C, P, Q, (extras r5).2, ?_, hpfx, hb1all, dropBlanks_eq_nil_iff.1 hnil,
        hA, hB, hC, hP, hQ⟩
      rw [← hx, ← hs, ← hb1, ← hp]
    | cons d ds => exact ⟨rfl, hnil ▸ s3, Or.inl rfl⟩

theorem versionP_ok {s r : List Char} {v : Version} (h : versionP s = .ok v r) (hlen : utf8Length s ≤ 256) :
    VersionLang s v := by
  have := versionP_spec s
  rw [h] at this
  exact this hlen

theorem versionP_err {s : List Char} {e : PErr} (h : versionP s = .err e) :
    e.ctx = some "version" ∧ e.rest <:+ s ∧ numKind e.kind := by
  have := versionP_spec s
  rwa [h] at this

theorem versionP_complete {s : List Char} {v : Version} (h : VersionLang s v) : versionP s = .ok v [] := by
  obtain ⟨_, pfx, b1, A, B, C, P, Q, b2, rfl, hpfx, hb1, hb2, hA, hB, hC, hP, hQ⟩ := h
  obtain ⟨hAne, hAd, _⟩ := numText_iff.1 hA
  have hf := extrasFollow_of_blanks hb2
  unfold versionP
  simp only
  rw [dropBlanks_stripVV_append hpfx hb1 hAd hAne, versionCore_append hA hB hC (head_not_digit_PQ hP hQ hf)]
  simp only
  rw [extras_append hP hQ hf]
  simp only
  rw [dropBlanks_eq_nil_iff.2 hb2]

/-! ### locality

Only the first character of `t` is looked at.  `number_local` and `identifier_local` need less than
`extrasFollow t`; all take it so that they compose.  Head-character equations are stated as
`∀ u, s ≠ c :: u → …` (`stripHyphen_ne`, `buildMeta_ne`, `identTail_not_dot`): that form covers `[]`. -/

/-- the same result with `t` appended to what remains (for an error: to where it was raised);
`mapRest` in `Boundary.lean` is the same on optional results -/
def PRes.mapRest {α : Type} (t : List Char) : PRes α → PRes α
  | .ok a r => .ok a (r ++ t)
  | .err e => .err { e with rest := e.rest ++ t }

variable {t : List Char}

theorem span_local (p : Char → Bool) (z : List Char) (hp : ∀ c, t.head? = some c → p c = false) :
    span p (z ++ t) = ((span p z).1, (span p z).2 ++ t) := by
  obtain ⟨h1, h2, h3⟩ := span_eq_iff.1 (rfl : span p z = _)
  have := span_append p (span p z).1 ((span p z).2 ++ t) h2 (by
    cases h : (span p z).2 with
    | nil => exact hp
    | cons c cs => rw [h] at h3; exact h3)
  rwa [← List.append_assoc, ← h1] at this

theorem number_local (ht : extrasFollow t) (z : List Char) : number (z ++ t) = (number z).mapRest t := by
  unfold number
  rw [span_local isDigit z (extrasFollow_not_digit ht)]
  simp only
  by_cases h0 : (span isDigit z).1.isEmpty = true
  · rw [if_pos h0, if_pos h0]; rfl
  rw [if_neg h0, if_neg h0]
  by_cases h1 : U64 ≤ valOf (span isDigit z).1
  · rw [if_pos h1, if_pos h1]; rfl
  rw [if_neg h1, if_neg h1]
  by_cases h2 : MAX_SAFE_INTEGER < valOf (span isDigit z).1
  · rw [if_pos h2, if_pos h2]; rfl
  rw [if_neg h2, if_neg h2]
  rfl

theorem identifier_local (ht : extrasFollow t) (z : List Char) :
    identifier (z ++ t) = (identifier z).mapRest t := by
  unfold identifier
  rw [span_local isIdChar z fun c hc => (ht c hc).1]
  simp only
  split <;> rfl

theorem extrasFollow_ne (ht : extrasFollow t) {c : Char} (hc : isIdChar c = true ∨ c = '.' ∨ c = '+')
    (u : List Char) : t ≠ c :: u := by
  rintro rfl
  obtain ⟨h1, h2, h3⟩ := ht c rfl
  rcases hc with h | h | h
  · rw [h1] at h; cases h
  · exact h2 h
  · exact h3 h

/-- with enough fuel on both sides; `t = []` says that the fuel does not matter -/
theorem identTail_local (ht : extrasFollow t) (n m : Nat) (z : List Char) (hn : z.length ≤ n)
    (hm : (z ++ t).length ≤ m) : identTail m (z ++ t) = ((identTail n z).1, (identTail n z).2 ++ t) := by
  induction n generalizing m z with
  | zero =>
    obtain rfl := List.length_eq_zero_iff.1 (Nat.le_zero.1 hn)
    exact identTail_not_dot m (extrasFollow_ne ht (Or.inr (Or.inl rfl)))
  | succ n ih =>
    cases z with
    | nil => exact identTail_not_dot m (extrasFollow_ne ht (Or.inr (Or.inl rfl)))
    | cons c cs =>
      by_cases hc : c = '.'
      · subst hc
        simp only [List.cons_append, List.length_cons, List.length_append] at hn hm
        cases m with
        | zero => exact absurd hm (Nat.not_succ_le_zero _)
        | succ m =>
          rw [List.cons_append, identTail, identTail, identifier_local ht cs]
          cases hi : identifier cs with
          | err e => rfl
          | ok a rest =>
            have := identifier_length hi
            simp only [PRes.mapRest]
            rw [ih m rest (by omega) (by rw [List.length_append]; omega)]
      · have hne : ∀ r u, c :: r ≠ '.' :: u := fun r u h => hc (List.cons.inj h).1
        rw [List.cons_append, identTail_not_dot m (hne _), identTail_not_dot _ (hne _)]
        rfl

theorem identList_local (ht : extrasFollow t) (z : List Char) : identList (z ++ t) = (identList z).mapRest t := by
  unfold identList
  rw [identifier_local ht z]
  cases identifier z with
  | err e => rfl
  | ok a rest =>
    simp only [PRes.mapRest]
    rw [identTail_local ht rest.length _ rest (Nat.le_refl _) (Nat.le_refl _)]

theorem stripHyphen_local (ht : extrasFollow t) (z : List Char) : stripHyphen (z ++ t) = stripHyphen z ++ t := by
  cases z with
  | nil => exact stripHyphen_ne (extrasFollow_ne ht (by decide))
  | cons c cs =>
    by_cases hc : c = '-'
    · subst hc; rfl
    · have hne : ∀ r u, c :: r ≠ '-' :: u := fun r u e => hc (List.cons.inj e).1
      rw [List.cons_append, stripHyphen_ne (hne _), stripHyphen_ne (hne _)]
      rfl

theorem preRelease_local (ht : extrasFollow t) (z : List Char) : preRelease (z ++ t) = (preRelease z).mapRest t := by
  unfold preRelease
  rw [stripHyphen_local ht, identList_local ht]
  cases identList (stripHyphen z) <;> rfl

theorem buildMeta_local (ht : extrasFollow t) (z : List Char) : buildMeta (z ++ t) = (buildMeta z).mapRest t := by
  cases z with
  | nil =>
    rw [List.nil_append, buildMeta_ne (extrasFollow_ne ht (by decide))]
    rfl
  | cons c cs =>
    by_cases hc : c = '+'
    · subst hc
      simp only [List.cons_append, buildMeta]
      rw [identList_local ht]
      cases identList cs <;> rfl
    · have hne : ∀ r u, c :: r ≠ '+' :: u := fun r u e => hc (List.cons.inj e).1
      rw [List.cons_append, buildMeta_ne (hne _), buildMeta_ne (hne _)]
      rfl

theorem extras_local (ht : extrasFollow t) (z : List Char) : extras (z ++ t) = ((extras z).1, (extras z).2 ++ t) := by
  unfold extras
  rw [preRelease_local ht z]
  cases preRelease z with
  | ok p r1 =>
    simp only [PRes.mapRest]
    rw [buildMeta_local ht r1]
    cases buildMeta r1 <;> rfl
  | err e =>
    simp only [PRes.mapRest]
    rw [buildMeta_local ht z]
    cases buildMeta z <;> rfl

end Semver
