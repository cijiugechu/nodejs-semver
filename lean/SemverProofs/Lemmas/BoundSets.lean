import SemverProofs.Lemmas.Bounds
/-!
# Interval operations on well-formed `BoundSet`s

A well-formed set is `⟨up q, lo p⟩` with valid `p`, `q` and `p.loCut < q.upCut` (`WF.cut`).  Each
operation is first computed on that form (`…_mk`) as comparisons of cuts; its properties are then
consequences of the order.
-/
namespace Semver
open Pred Bound Std

/-- what every `BoundSet` built by the crate is: `(Lower p, Upper q)`, non-empty by `new`'s rule.
Stated on versions (`nonEmpty`), as the property statements read it; the proofs take it as a
comparison of cuts through `WF.cut`. -/
def BoundSet.WF (s : BoundSet) : Prop := ∃ p q, s = ⟨up q, lo p⟩ ∧ p.valid ∧ q.valid ∧ nonEmpty p q

theorem within_mk (p q : Pred) (v : Version) :
    (BoundSet.mk (up q) (lo p)).within v = true ↔ p.loCut < Cut.of v ∧ Cut.of v < q.upCut := by
  cases p <;> cases q <;> simp [BoundSet.within]

theorem nonEmpty_of_within {p q : Pred} {v : Version} (h : (BoundSet.mk (up q) (lo p)).within v = true) :
    nonEmpty p q := by
  rw [within_mk] at h
  rw [nonEmpty_iff]
  grind

theorem BoundSet.WF.cut {s : BoundSet} (h : s.WF) :
    ∃ p q, s = ⟨up q, lo p⟩ ∧ p.valid ∧ q.valid ∧ p.loCut < q.upCut := by
  obtain ⟨p, q, e, vp, vq, hne⟩ := h
  exact ⟨p, q, e, vp, vq, (nonEmpty_iff p q).mp hne⟩

theorem new_eq (p q : Pred) :
    BoundSet.new (lo p) (up q) =
      if p.valid ∧ q.valid ∧ p.loCut < q.upCut then some ⟨up q, lo p⟩ else none := by
  have := valid_up q
  simp only [BoundSet.new, newCore_eq]
  unfold Pred.valid at *
  grind

theorem new_isSome (p q : Pred) :
    (BoundSet.new (lo p) (up q)).isSome = true ↔ (p.valid ∧ q.valid ∧ nonEmpty p q) := by
  rw [new_eq, nonEmpty_iff]
  grind

theorem new_eq_some {p q : Pred} {s : BoundSet} (h : BoundSet.new (lo p) (up q) = some s) :
    s = ⟨up q, lo p⟩ := by
  rw [new_eq] at h
  grind

theorem new_wf {p q : Pred} {s : BoundSet} (h : BoundSet.new (lo p) (up q) = some s) : s.WF :=
  ⟨p, q, new_eq_some h, (new_isSome p q).mp (by rw [h]; rfl)⟩

theorem new_of_nonEmpty {p q : Pred} (hp : p.valid) (hq : q.valid) (h : nonEmpty p q) :
    BoundSet.new (lo p) (up q) = some ⟨up q, lo p⟩ := by
  rw [new_eq, if_pos ⟨hp, hq, (nonEmpty_iff p q).mp h⟩]

theorem new_none_iff {p q : Pred} (hp : p.valid) (hq : q.valid) :
    BoundSet.new (lo p) (up q) = none ↔ ¬ nonEmpty p q := by
  rw [new_eq, nonEmpty_iff]
  grind

theorem WF.shaped {s : BoundSet} (h : s.WF) : s.shaped = true := by
  obtain ⟨p, q, rfl, _⟩ := h; rfl

theorem intersect_mk (p q p' q' : Pred) :
    (BoundSet.mk (up q) (lo p)).intersect ⟨up q', lo p'⟩ =
      BoundSet.new (lo (maxLo p p')) (up (minUp q q')) := by
  simp [BoundSet.intersect, max_lo, min_up]

/-- each bound of an intersection is a bound of an operand: what holds of both lower bounds (`L`) and of
both upper bounds (`U`) holds of the result's -/
theorem intersect_bounds {L U : Pred → Prop} {s o r : BoundSet} (hs : ∃ p q, s = ⟨up q, lo p⟩ ∧ L p ∧ U q)
    (ho : ∃ p q, o = ⟨up q, lo p⟩ ∧ L p ∧ U q) (h : s.intersect o = some r) :
    ∃ p q, r = ⟨up q, lo p⟩ ∧ L p ∧ U q := by
  obtain ⟨p, q, rfl, lp, uq⟩ := hs
  obtain ⟨p', q', rfl, lp', uq'⟩ := ho
  rw [intersect_mk] at h
  refine ⟨_, _, new_eq_some h, ?_, ?_⟩
  · rcases maxLo_cases p p' with ⟨_, e⟩ | ⟨_, e⟩ <;> rw [e] <;> assumption
  · rcases minUp_cases q q' with ⟨_, e⟩ | ⟨_, e⟩ <;> rw [e] <;> assumption

theorem intersect_some {s o r : BoundSet} (hs : s.WF) (ho : o.WF) (h : s.intersect o = some r) :
    r.WF ∧ ∀ v, r.within v = true ↔ (s.within v = true ∧ o.within v = true) := by
  obtain ⟨p, q, rfl, vp, vq, _⟩ := hs
  obtain ⟨p', q', rfl, vp', vq', _⟩ := ho
  rw [intersect_mk] at h
  refine ⟨new_wf h, ?_⟩
  intro v
  rw [new_eq_some h, within_mk, within_mk, within_mk, loCut_maxLo_lt, lt_upCut_minUp]
  exact and_and_and_comm

theorem intersect_none {s o : BoundSet} (hs : s.WF) (ho : o.WF) (h : s.intersect o = none) :
    ∀ v, ¬ (s.within v = true ∧ o.within v = true) := by
  obtain ⟨p, q, rfl, vp, vq, _⟩ := hs
  obtain ⟨p', q', rfl, vp', vq', _⟩ := ho
  rw [intersect_mk, new_none_iff (valid_maxLo vp vp') (valid_minUp vq vq'), nonEmpty_iff] at h
  intro v
  rw [within_mk, within_mk]
  intro ⟨⟨hp, hq⟩, hp', hq'⟩
  exact h (Std.lt_trans ((loCut_maxLo_lt p p' _).2 ⟨hp, hp'⟩) ((lt_upCut_minUp q q' _).2 ⟨hq, hq'⟩))

theorem allowsAny_mk (p q p' q' : Pred) :
    (BoundSet.mk (up q) (lo p)).allowsAny ⟨up q', lo p'⟩ = true ↔
      p.loCut < q'.upCut ∧ p'.loCut < q.upCut := by
  have := up_lt_lo q' p
  have := up_lt_lo q p'
  simp only [BoundSet.allowsAny]
  grind

theorem allowsAny_eq_intersect {s o : BoundSet} (hs : s.WF) (ho : o.WF) :
    s.allowsAny o = (s.intersect o).isSome := by
  obtain ⟨p, q, rfl, vp, vq, h1⟩ := hs.cut
  obtain ⟨p', q', rfl, vp', vq', h2⟩ := ho.cut
  rw [Bool.eq_iff_iff, allowsAny_mk, intersect_mk, new_isSome, nonEmpty_iff, maxLo_lt_minUp h1 h2]
  simp only [valid_maxLo vp vp', valid_minUp vq vq', true_and]

theorem allowsAny_symm {s o : BoundSet} (hs : s.WF) (ho : o.WF) : s.allowsAny o = o.allowsAny s := by
  obtain ⟨p, q, rfl, _⟩ := hs
  obtain ⟨p', q', rfl, _⟩ := ho
  rw [Bool.eq_iff_iff, allowsAny_mk, allowsAny_mk, and_comm]

theorem allowsAll_mk (p q p' q' : Pred) :
    (BoundSet.mk (up q) (lo p)).allowsAll ⟨up q', lo p'⟩ = true ↔
      p.loCut ≤ p'.loCut ∧ q'.upCut ≤ q.upCut := by
  simp [BoundSet.allowsAll, lo_le_lo, up_le_up]

theorem allowsAll_sound {s o : BoundSet} (hs : s.WF) (ho : o.WF) (h : s.allowsAll o = true) :
    ∀ v, o.within v = true → s.within v = true := by
  obtain ⟨p, q, rfl, _⟩ := hs
  obtain ⟨p', q', rfl, _⟩ := ho
  rw [allowsAll_mk] at h
  intro v
  rw [within_mk, within_mk]
  grind

theorem allowsAll_refl {s : BoundSet} (hs : s.WF) : s.allowsAll s = true := by
  obtain ⟨p, q, rfl, _⟩ := hs
  rw [allowsAll_mk]
  grind

theorem allowsAll_imp_allowsAny {s o : BoundSet} (hs : s.WF) (ho : o.WF) (h : s.allowsAll o = true) :
    s.allowsAny o = true := by
  obtain ⟨p, q, rfl, _, _, h1⟩ := hs.cut
  obtain ⟨p', q', rfl, _, _, h2⟩ := ho.cut
  rw [allowsAll_mk] at h
  rw [allowsAny_mk]
  grind

theorem beq_mk (p q p' q' : Pred) :
    (BoundSet.mk (up q) (lo p)).beq ⟨up q', lo p'⟩ = true ↔ predEqv q q' ∧ predEqv p p' := by
  simp [BoundSet.beq, Bound.beq, predBeq_iff]

/-- the overlap has the bounds of `s` exactly when `o` cuts nothing off -/
theorem beq_overlap (p q p' q' : Pred) :
    (BoundSet.mk (up (minUp q q')) (lo (maxLo p p'))).beq ⟨up q, lo p⟩ = true ↔
      ¬ p.loCut < p'.loCut ∧ ¬ q'.upCut < q.upCut := by
  have := maxLo_cases p p'
  have := minUp_cases q q'
  rw [beq_mk, predEqv_iff_up, predEqv_iff_lo]
  grind

theorem new_below {p p' : Pred} (vp : p.valid) (vp' : p'.valid) (h : p.loCut < p'.loCut) :
    BoundSet.new (lo p) (up p'.flip) = some ⟨up p'.flip, lo p⟩ :=
  new_of_nonEmpty vp (valid_flip vp') ((nonEmpty_iff _ _).mpr (by rw [upCut_flip (ne_unb_of_lt_loCut h)]; exact h))

theorem new_above {q q' : Pred} (vq : q.valid) (vq' : q'.valid) (h : q'.upCut < q.upCut) :
    BoundSet.new (lo q'.flip) (up q) = some ⟨up q, lo q'.flip⟩ :=
  new_of_nonEmpty (valid_flip vq') vq ((nonEmpty_iff _ _).mpr (by rw [loCut_flip (ne_unb_of_upCut_lt h)]; exact h))

theorem within_below {p p' : Pred} (h : p.loCut < p'.loCut) (v : Version) :
    (BoundSet.mk (up p'.flip) (lo p)).within v = true ↔ p.loCut < Cut.of v ∧ Cut.of v < p'.loCut := by
  rw [within_mk, upCut_flip (ne_unb_of_lt_loCut h)]

theorem within_above {q q' : Pred} (h : q'.upCut < q.upCut) (v : Version) :
    (BoundSet.mk (up q) (lo q'.flip)).within v = true ↔ q'.upCut < Cut.of v ∧ Cut.of v < q.upCut := by
  rw [within_mk, loCut_flip (ne_unb_of_upCut_lt h)]

/-- `BoundSet::difference` computed on two intervals: all of `s` if they are disjoint, otherwise
what `s` has below `o` and what it has above `o`, each cut off by the flipped bound of `o` -/
theorem difference_mk {p q p' q' : Pred} (vp : p.valid) (vq : q.valid) (vp' : p'.valid) (vq' : q'.valid)
    (h1 : p.loCut < q.upCut) (h2 : p'.loCut < q'.upCut) :
    (BoundSet.mk (up q) (lo p)).difference ⟨up q', lo p'⟩ =
      if p.loCut < q'.upCut ∧ p'.loCut < q.upCut then
        if p.loCut < p'.loCut then
          if q'.upCut < q.upCut then .some [⟨up p'.flip, lo p⟩, ⟨up q, lo q'.flip⟩]
          else .some [⟨up p'.flip, lo p⟩]
        else
          if q'.upCut < q.upCut then .some [⟨up q, lo q'.flip⟩]
          else .none
      else .some [⟨up q, lo p⟩] := by
  unfold BoundSet.difference
  rw [intersect_mk]
  have overlap := maxLo_lt_minUp h1 h2
  by_cases hov : p.loCut < q'.upCut ∧ p'.loCut < q.upCut
  · rw [if_pos hov,
      new_of_nonEmpty (valid_maxLo vp vp') (valid_minUp vq vq') ((nonEmpty_iff _ _).mpr (overlap.mpr hov))]
    -- the three tests of the code, as comparisons of cuts
    simp only [beq_overlap, Bool.and_eq_true, lt_lo_maxLo, lt_up_minUp, Bound.predicate]
    by_cases hl : p.loCut < p'.loCut <;> by_cases hu : q'.upCut < q.upCut <;>
      simp only [hl, hu, not_true_eq_false, not_false_eq_true, and_self, and_true, and_false, if_true, if_false]
    · rw [maxLo_of_lt hl, minUp_of_lt hu, new_below vp vp' hl, new_above vq vq' hu]
    · rw [maxLo_of_lt hl, new_below vp vp' hl]
    · rw [minUp_of_lt hu, new_above vq vq' hu]
  · rw [if_neg hov, (new_none_iff (valid_maxLo vp vp') (valid_minUp vq vq')).mpr (by rw [nonEmpty_iff, overlap]; exact hov)]

/-- the outcome of `BoundSet::difference` on well-formed operands: never the `unwrap()` panic,
`none` only if nothing of `s` lies outside `o`, otherwise well-formed pieces that cover exactly
`s \ o`. -/
theorem difference_spec {s o : BoundSet} (hs : s.WF) (ho : o.WF) :
    match s.difference o with
    | .panic => False
    | .none => ∀ v, s.within v = true → o.within v = true
    | .some l => (∀ x ∈ l, x.WF) ∧
        ∀ v, (∃ x ∈ l, x.within v = true) ↔ (s.within v = true ∧ ¬ o.within v = true) := by
  obtain ⟨p, q, rfl, vp, vq, h1⟩ := hs.cut
  obtain ⟨p', q', rfl, vp', vq', h2⟩ := ho.cut
  rw [difference_mk vp vq vp' vq' h1 h2]
  -- a flipped bound stands where the original stood (`within_below`, `within_above`), so the
  -- remainders end at the cuts of `o`; a version is never level with a cut, so what is not beyond
  -- a cut of `o` is on this side of it
  by_cases hov : p.loCut < q'.upCut ∧ p'.loCut < q.upCut
  · rw [if_pos hov]
    have cover : ∀ v, (p.loCut < p'.loCut ∧ p.loCut < Cut.of v ∧ Cut.of v < p'.loCut) ∨
        (q'.upCut < q.upCut ∧ q'.upCut < Cut.of v ∧ Cut.of v < q.upCut) ↔
        (p.loCut < Cut.of v ∧ Cut.of v < q.upCut) ∧ ¬ (p'.loCut < Cut.of v ∧ Cut.of v < q'.upCut) := by
      intro v
      have := loCut_lt_or_gt p' v
      have := upCut_lt_or_gt q' v
      grind
    by_cases hl : p.loCut < p'.loCut <;> by_cases hu : q'.upCut < q.upCut
    · rw [if_pos hl, if_pos hu]
      refine ⟨?_, fun v => ?_⟩
      · exact List.forall_mem_cons.2
          ⟨new_wf (new_below vp vp' hl), List.forall_mem_singleton.2 (new_wf (new_above vq vq' hu))⟩
      · simpa only [List.mem_cons, List.not_mem_nil, or_false, exists_eq_or_imp, exists_eq_left, within_below hl,
          within_above hu, within_mk, hl, hu, true_and] using cover v
    · rw [if_pos hl, if_neg hu]
      refine ⟨?_, fun v => ?_⟩
      · exact List.forall_mem_singleton.2 (new_wf (new_below vp vp' hl))
      · simpa only [List.mem_cons, List.not_mem_nil, or_false, exists_eq_left, within_below hl, within_mk, hl, hu,
          true_and, false_and, or_false] using cover v
    · rw [if_neg hl, if_pos hu]
      refine ⟨?_, fun v => ?_⟩
      · exact List.forall_mem_singleton.2 (new_wf (new_above vq vq' hu))
      · simpa only [List.mem_cons, List.not_mem_nil, or_false, exists_eq_left, within_above hu, within_mk, hl, hu,
          true_and, false_and, false_or] using cover v
    · rw [if_neg hl, if_neg hu]
      intro v
      have := cover v
      rw [within_mk, within_mk]
      grind
  · rw [if_neg hov]
    refine ⟨?_, fun v => ?_⟩
    · exact List.forall_mem_singleton.2 hs
    · simp only [List.mem_cons, List.not_mem_nil, or_false, exists_eq_left, within_mk]
      grind

theorem difference_eq_none_iff {s o : BoundSet} (hs : s.WF) (ho : o.WF) :
    s.difference o = .none ↔ o.allowsAll s = true := by
  obtain ⟨p, q, rfl, vp, vq, h1⟩ := hs.cut
  obtain ⟨p', q', rfl, vp', vq', h2⟩ := ho.cut
  rw [difference_mk vp vq vp' vq' h1 h2, allowsAll_mk]
  grind

theorem difference_ne_some_nil {s o : BoundSet} (hs : s.WF) (ho : o.WF) : s.difference o ≠ .some [] := by
  obtain ⟨p, q, rfl, vp, vq, h1⟩ := hs.cut
  obtain ⟨p', q', rfl, vp', vq', h2⟩ := ho.cut
  rw [difference_mk vp vq vp' vq' h1 h2]
  grind

end Semver
