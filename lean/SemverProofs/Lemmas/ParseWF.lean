import SemverProofs.Lemmas.Ranges
import SemverModel.RangeParse
/-!
# What `Range::parse` returns

Every alternative of a parsed range is the AND-fold (`foldSets`) of comparators returned by `simple`;
a comparator is one of the five tables applied to partials that `partialVersion` read; a table entry
is `BoundSet::new` of two bounds taken from the partial.  So a property of such `BoundSet.new`
results that `BoundSet.intersect` preserves holds of every parsed range (`parse_closure`).
Well-formedness is the first such property.
-/
namespace Semver
open Pred Bound

/-- the alternatives of a text, as `Range::parse` sees them (leading blanks skipped) -/
def altsOf (s : List Char) : List BoundSet := (boundSets (dropBlanks s)).1

theorem parse_eq_alts (s : List Char) :
    Range.parse s = if (altsOf s).isEmpty then .error ⟨s, 0, .noValidRanges⟩ else .ok (altsOf s) := rfl

theorem parse_ok_iff_alts {s : List Char} {r : Range} : Range.parse s = .ok r ↔ (altsOf s = r ∧ r ≠ []) := by
  rw [parse_eq_alts]
  cases altsOf s with
  | nil => exact ⟨nofun, fun ⟨h1, h2⟩ => absurd h1.symm h2⟩
  | cons x xs => exact ⟨fun h => by cases h; exact ⟨rfl, nofun⟩, fun ⟨h, _⟩ => h ▸ rfl⟩

theorem parse_fails_iff_alts {s : List Char} : (∀ r, Range.parse s ≠ .ok r) ↔ altsOf s = [] :=
  ⟨fun h => Decidable.by_contra fun hn => h _ (parse_ok_iff_alts.2 ⟨rfl, hn⟩),
    fun h _ hr => (parse_ok_iff_alts.1 hr).2 ((parse_ok_iff_alts.1 hr).1 ▸ h)⟩

def andFold (acc : Option BoundSet) (l : List BoundSet) : Option BoundSet :=
  l.foldl (fun a b => a.bind (·.intersect b)) acc

theorem foldSets_eq (bs : List (Option BoundSet)) :
    foldSets bs = match bs.filterMap id with
      | [] => []
      | x :: rest => (andFold (some x) rest).toList := by
  unfold foldSets andFold
  cases bs.filterMap id with
  | nil => rfl
  | cons x rest => simp only; split <;> simp [*]

theorem foldSets_congr {a b : List (Option BoundSet)} (h : a.filterMap id = b.filterMap id) :
    foldSets a = foldSets b := by
  rw [foldSets_eq, foldSets_eq, h]

/-- `motive seen acc` relates the comparators consumed so far to the accumulator -/
theorem andFold_induction {motive : List BoundSet → Option BoundSet → Prop} {seen : List BoundSet}
    {acc : Option BoundSet} (rest : List BoundSet) (h0 : motive seen acc)
    (step : ∀ seen acc b, b ∈ rest → motive seen acc → motive (seen ++ [b]) (acc.bind (·.intersect b))) :
    motive (seen ++ rest) (andFold acc rest) := by
  induction rest generalizing seen acc with
  | nil => simpa [andFold] using h0
  | cons b rest ih =>
    have := ih (step seen acc b List.mem_cons_self h0) (fun s a c hc => step s a c (List.mem_cons_of_mem _ hc))
    simpa [andFold] using this

theorem foldSets_induction {motive : List BoundSet → Option BoundSet → Prop} (bs : List (Option BoundSet))
    (one : ∀ x, some x ∈ bs → motive [x] (some x))
    (step : ∀ seen acc b, some b ∈ bs → motive seen acc → motive (seen ++ [b]) (acc.bind (·.intersect b)))
    (hne : bs.filterMap id ≠ []) :
    ∃ acc, motive (bs.filterMap id) acc ∧ foldSets bs = acc.toList := by
  have hmem : ∀ x, x ∈ bs.filterMap id → some x ∈ bs := by simp
  rw [foldSets_eq]
  cases hl : bs.filterMap id with
  | nil => exact absurd hl hne
  | cons x rest =>
    rw [hl] at hmem
    exact ⟨_, andFold_induction rest (one x (hmem x List.mem_cons_self))
      (fun s a b hb => step s a b (hmem b (List.mem_cons_of_mem _ hb))), rfl⟩

theorem foldSets_closure {Q : BoundSet → Prop}
    (inter : ∀ {s o r : BoundSet}, Q s → Q o → s.intersect o = some r → Q r)
    {bs : List (Option BoundSet)} (h : ∀ x, some x ∈ bs → Q x) : ∀ r ∈ foldSets bs, Q r := by
  by_cases hne : bs.filterMap id = []
  · simp [foldSets_eq, hne]
  · obtain ⟨acc, hacc, heq⟩ := foldSets_induction (motive := fun _ acc => ∀ r, acc = some r → Q r) bs
      (fun x hx r hr => by cases hr; exact h x hx)
      (fun _ acc b hb ih r hr => by
        cases acc with
        | none => cases hr
        | some a => exact inter (ih a rfl) (h b hb) hr)
      hne
    intro r hr
    rw [heq] at hr
    exact hacc r (by simpa using hr)

theorem rangeTail_simple (s : List Char) : ∀ o ∈ (rangeTail s).1, ∃ t, o = (simple t).1 := by
  induction s using rangeTail.induct with
  | case1 s h => simp [rangeTail_none h]
  | case2 s r h _ ih =>
    rw [rangeTail_some h]
    exact List.forall_mem_cons.2 ⟨⟨r, rfl⟩, ih⟩

theorem rangeP_fold (s : List Char) :
    ∃ bs, (rangeP s).1 = foldSets bs ∧ ∀ o ∈ bs, ∃ t, o = (simple t).1 :=
  ⟨_, rfl, List.forall_mem_cons.2 ⟨⟨s, rfl⟩, rangeTail_simple _⟩⟩

theorem boundSetsTail_rangeP (s : List Char) : ∀ l ∈ (boundSetsTail s).1, ∃ t, l = (rangeP t).1 := by
  induction s using boundSetsTail.induct with
  | case1 s h => simp [boundSetsTail_none h]
  | case2 s r h _ ih =>
    rw [boundSetsTail_some h]
    exact List.forall_mem_cons.2 ⟨⟨r, rfl⟩, ih⟩

theorem boundSets_rangeP (s : List Char) : ∀ x ∈ (boundSets s).1, ∃ t, x ∈ (rangeP t).1 := by
  intro x hx
  simp only [boundSets, List.mem_flatten, List.mem_cons] at hx
  obtain ⟨l, hl, hxl⟩ := hx
  rcases hl with rfl | hl
  · exact ⟨s, hxl⟩
  · obtain ⟨t, rfl⟩ := boundSetsTail_rangeP _ l hl
    exact ⟨t, hxl⟩

section closure
variable {Q : BoundSet → Prop} (entry : ∀ t x, (simple t).1 = some x → Q x)
  (inter : ∀ {s o r : BoundSet}, Q s → Q o → s.intersect o = some r → Q r)
include entry inter

theorem rangeP_closure (s : List Char) : ∀ x ∈ (rangeP s).1, Q x := by
  obtain ⟨bs, heq, hbs⟩ := rangeP_fold s
  rw [heq]
  apply foldSets_closure inter
  intro x hx
  obtain ⟨t, ht⟩ := hbs _ hx
  exact entry t x ht.symm

theorem parse_closure {s : List Char} {r : Range} (h : Range.parse s = .ok r) : ∀ x ∈ r, Q x := by
  obtain ⟨rfl, _⟩ := parse_ok_iff_alts.mp h
  intro x hx
  obtain ⟨t, ht⟩ := boundSets_rangeP _ x hx
  exact rangeP_closure entry inter t x ht

end closure

/-- produced by the five parsers of `simple`; consumed where a table entry must know that its
identifiers went through `extras` (`Partial.Read.ids`) -/
def Partial.Read (p : Partial) : Prop := ∃ t r, partialVersion t = some (p, r)

/-- where a bound of a table entry for the partial `p` comes from: no bound, a release, or the
version of `p` itself (`=`, `~`, `^` use it without its build metadata) -/
inductive BoundOf (p : Partial) : Pred → Prop
  | unb : BoundOf p unb
  | rel (a b c : Nat) : BoundOf p (inc (Version.mk3 a b c))
  | inc : BoundOf p (inc p.toVersion)
  | exc : BoundOf p (exc p.toVersion)
  | incNoBuild : BoundOf p (inc { p.toVersion with build := [] })

/-- the `-0` upper bounds of x-ranges, tildes, carets -/
def Dash0 (Q : Pred) : Prop := ∃ a b c, Q = exc (Version.mk4 a b c 0)

/-- an entry of a table: `BoundSet::new` of a lower bound from `l` and an upper bound from `u`.  The last
conjunct (not both absent) is what keeps `*` out of printed ranges (`C13.Bounded`) -/
def TableEntry (l u : Partial) (x : BoundSet) : Prop :=
  ∃ P Q, BoundSet.new (lo P) (up Q) = some x ∧ BoundOf l P ∧ (BoundOf u Q ∨ Dash0 Q) ∧ (P ≠ unb ∨ Q ≠ unb)

theorem TableEntry.mk {l u : Partial} {x : BoundSet} {P Q : Pred} (h : BoundSet.new (lo P) (up Q) = some x)
    (hP : BoundOf l P) (hQ : BoundOf u Q ∨ Dash0 Q) (hb : P ≠ unb ∨ Q ≠ unb) : TableEntry l u x :=
  ⟨P, Q, h, hP, hQ, hb⟩

theorem dash0_mk4 (a b c : Nat) : Dash0 (exc (Version.mk4 a b c 0)) := ⟨a, b, c, rfl⟩

theorem primitiveSet_entry {op : Operation} {p : Partial} {x : BoundSet} (h : primitiveSet op p = some x) :
    TableEntry p p x := by
  unfold primitiveSet at h
  split at h
  · exact .mk h .unb (.inr (dash0_mk4 0 0 0)) (.inr nofun)                    -- >x
  · exact .mk h .unb (.inr (dash0_mk4 0 0 0)) (.inr nofun)                    -- <x
  · exact .mk h (.rel 0 0 0) (.inl .unb) (.inl nofun)                         -- >=x, <=x, =x
  · exact .mk h .inc (.inl .unb) (.inl nofun)                                 -- >=p
  · exact .mk h (.rel _ _ _) (.inl .unb) (.inl nofun)                         -- >M.m
  · exact .mk h (.rel _ _ _) (.inl .unb) (.inl nofun)                         -- >M
  · exact .mk h .exc (.inl .unb) (.inl nofun)                                 -- >M.m.p
  · exact .mk h .unb (.inr (dash0_mk4 _ _ _)) (.inr nofun)                    -- <M.m
  · exact .mk h .unb (.inl .exc) (.inr nofun)                                 -- <M, <M.m.p
  · exact .mk h .unb (.inl (.rel _ _ _)) (.inr nofun)                         -- <=M
  · exact .mk h .unb (.inl (.rel _ _ _)) (.inr nofun)                         -- <=M.m
  · exact .mk h .unb (.inl .inc) (.inr nofun)                                 -- <=M.m.p
  · exact .mk h .incNoBuild (.inl .incNoBuild) (.inl nofun)                   -- =M.m.p
  · exact .mk h (.rel _ _ _) (.inr (dash0_mk4 _ _ _)) (.inl nofun)            -- =M.m
  · exact .mk h (.rel _ _ _) (.inr (dash0_mk4 _ _ _)) (.inl nofun)            -- =M

theorem partialSet_entry {p : Partial} {x : BoundSet} (h : partialSet p = some x) : TableEntry p p x := by
  unfold partialSet at h
  split at h
  · exact .mk h (.rel 0 0 0) (.inl .unb) (.inl nofun)                         -- x
  · exact .mk h (.rel _ _ _) (.inr (dash0_mk4 _ _ _)) (.inl nofun)            -- M
  · exact .mk h (.rel _ _ _) (.inr (dash0_mk4 _ _ _)) (.inl nofun)            -- M.m
  · exact .mk h .inc (.inl .inc) (.inl nofun)                                 -- M.m.p

theorem tildeSet_entry {g : Bool} {p : Partial} {x : BoundSet} (h : tildeSet g p = some x) :
    TableEntry p p x := by
  unfold tildeSet at h
  split at h
  · exact .mk h (.rel 0 0 0) (.inl .unb) (.inl nofun)                         -- ~x
  · exact .mk h (.rel _ _ _) (.inr (dash0_mk4 _ _ _)) (.inl nofun)            -- ~>M
  · exact .mk h .incNoBuild (.inr (dash0_mk4 _ _ _)) (.inl nofun)             -- ~>M.m, ~>M.m.p
  · exact .mk h .incNoBuild (.inr (dash0_mk4 _ _ _)) (.inl nofun)             -- ~M.m.p
  · exact .mk h (.rel _ _ _) (.inr (dash0_mk4 _ _ _)) (.inl nofun)            -- ~M.m
  · exact .mk h (.rel _ _ _) (.inr (dash0_mk4 _ _ _)) (.inl nofun)            -- ~M
  · cases h

theorem caretSet_entry {p : Partial} {x : BoundSet} (h : caretSet p = some x) : TableEntry p p x := by
  unfold caretSet at h
  split at h
  · exact .mk h (.rel 0 0 0) (.inl .unb) (.inl nofun)                         -- ^x
  · exact .mk h .unb (.inr (dash0_mk4 1 0 0)) (.inr nofun)                    -- ^0
  · exact .mk h (.rel _ _ _) (.inr (dash0_mk4 _ _ _)) (.inl nofun)            -- ^0.m
  · exact .mk h (.rel _ _ _) (.inr (dash0_mk4 _ _ _)) (.inl nofun)            -- ^M
  · exact .mk h (.rel _ _ _) (.inr (dash0_mk4 _ _ _)) (.inl nofun)            -- ^M.m
  · refine .mk h .incNoBuild (.inr ?_) (.inl nofun)                           -- ^M.m.p
    split <;> exact dash0_mk4 _ _ _
  · cases h

theorem hyphenUpper_bound (u : Partial) : BoundOf u (hyphenUpper u) ∨ Dash0 (hyphenUpper u) := by
  unfold hyphenUpper
  split
  · exact .inl .unb                                                            -- - x
  · exact .inr (dash0_mk4 _ _ _)                                               -- - M
  · exact .inr (dash0_mk4 _ _ _)                                               -- - M.m
  · exact .inl .inc                                                            -- - M.m.p

theorem hyphenSet_some_entry {l u : Partial} {x : BoundSet}
    (h : hyphenSet (some l) (hyphenUpper u) = some x) : TableEntry l u x :=
  .mk h .inc (hyphenUpper_bound u) (.inl nofun)

/-- without a lower partial the lower bound is absent or `0.0.0`: a bound of any partial -/
theorem hyphenSet_none_entry {u : Partial} {x : BoundSet} (h : hyphenSet none (hyphenUpper u) = some x)
    (l : Partial) : TableEntry l u x := by
  unfold hyphenSet at h
  simp only at h
  split at h
  · exact .mk h (.rel 0 0 0) (.inl .unb) (.inl nofun)
  · rename_i hu
    exact .mk h .unb (hyphenUpper_bound u) (.inr hu)

/-- one bullet per production of `simple`: invert it, apply its table lemma -/
theorem simple_tableEntry {s : List Char} {x : BoundSet} (h : (simple s).1 = some x) :
    ∃ l u : Partial, l.Read ∧ u.Read ∧ TableEntry l u x := by
  revert h
  refine simple_elim (motive := fun y => y.1 = some x → _) s ?_ ?_ ?_ ?_ ?_ nofun
  · intro y hy _ hx
    obtain ⟨u, hu, ho⟩ := hyphen_some hy
    obtain ⟨_, _, _, _, _, _, hu3⟩ := hyphenRest_some hu
    rw [ho] at hx
    cases hl : (optPartial s).1.filter (·.major.isSome) with
    | none =>
      rw [hl] at hx
      exact ⟨u, u, ⟨_, _, hu3⟩, ⟨_, _, hu3⟩, hyphenSet_none_entry hx u⟩
    | some lp =>
      rw [hl] at hx
      obtain ⟨_, hp⟩ := optPartial_some (Option.filter_eq_some_iff.1 hl).1
      exact ⟨lp, u, ⟨_, _, hp⟩, ⟨_, _, hu3⟩, hyphenSet_some_entry hx⟩
  · intro y hy _ hx
    obtain ⟨_, _, p, _, hp, ho⟩ := primitive_some hy
    exact ⟨p, p, ⟨_, _, hp⟩, ⟨_, _, hp⟩, primitiveSet_entry (ho ▸ hx)⟩
  · intro y hy _ hx
    obtain ⟨p, hp, ho⟩ := partialP_some hy
    exact ⟨p, p, ⟨_, _, hp⟩, ⟨_, _, hp⟩, partialSet_entry (ho ▸ hx)⟩
  · intro y hy _ hx
    obtain ⟨_, _, p, _, hp, ho⟩ := tilde_some hy
    exact ⟨p, p, ⟨_, _, hp⟩, ⟨_, _, hp⟩, tildeSet_entry (ho ▸ hx)⟩
  · intro y hy _ hx
    obtain ⟨_, p, _, hp, ho⟩ := caret_some hy
    exact ⟨p, p, ⟨_, _, hp⟩, ⟨_, _, hp⟩, caretSet_entry (ho ▸ hx)⟩

theorem TableEntry.wf {l u : Partial} {x : BoundSet} (h : TableEntry l u x) : x.WF := by
  obtain ⟨P, Q, hn, _⟩ := h
  exact new_wf hn

theorem simple_wf (s : List Char) (x : BoundSet) (h : (simple s).1 = some x) : x.WF := by
  obtain ⟨_, _, _, _, ht⟩ := simple_tableEntry h
  exact ht.wf

theorem parse_wf {s : List Char} {r : Range} (h : Range.parse s = .ok r) : r.WF :=
  ⟨(parse_ok_iff_alts.mp h).2, parse_closure simple_wf (fun hs ho h => (intersect_some hs ho h).1) h⟩

end Semver
