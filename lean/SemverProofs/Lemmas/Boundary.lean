import SemverProofs.Lemmas.VersionParse
import SemverModel.RangeParse
/-!
# No token-level production reads past a token end

For every text `z`: `P (z ++ t)` is `P z` with `t` appended to what remains.  The statement comes under
four hypotheses on `t`, each a suffix: `_local` under `extrasFollow t` (version-level productions,
`Lemmas/VersionParse.lean`), `_tail` under `atEnd t` (token-level productions of the range parser,
here), `_app` under `AltSep t T0` (every production, `Lemmas/Locality.lean`), `_closed` for a solid token
`z` under `atEnd t` (`Lemmas/Closed.lean`).  `AltSep → AltEnd → TokFollow → atEnd → extrasFollow`.
`atEnd` is the parser's own token end (end of input, a blank, `||`); only the first character of `t`
is used.  Where a production skips blanks it does read on: `dropBlanks_junction`.
-/
namespace Semver

variable {t : List Char}

def mapRest {α : Type} (t : List Char) (o : Option (α × List Char)) : Option (α × List Char) :=
  o.map (fun x => (x.1, x.2 ++ t))

theorem atEnd_cons_iff (c : Char) (s : List Char) :
    atEnd (c :: s) = true ↔ isBlank c = true ∨ (c = '|' ∧ ∃ u, s = '|' :: u) := by
  unfold atEnd
  split
  · rename_i heq; cases heq
  · rename_i u heq
    cases heq
    exact ⟨fun _ => Or.inr ⟨rfl, u, rfl⟩, fun _ => rfl⟩
  · rename_i d u hnot heq
    cases heq
    refine ⟨Or.inl, ?_⟩
    rintro (h | ⟨rfl, u, rfl⟩)
    · exact h
    · exact (hnot u rfl rfl).elim

theorem atEnd_of_blank_head {c : Char} {s : List Char} (h : isBlank c = true) : atEnd (c :: s) = true :=
  (atEnd_cons_iff c s).2 (Or.inl h)

theorem atEnd_cons_false {c : Char} (s : List Char) (hb : isBlank c = false) (hc : c ≠ '|') :
    atEnd (c :: s) = false := by
  refine Bool.eq_false_iff.2 fun h => ?_
  rcases (atEnd_cons_iff c s).1 h with h | ⟨h, _⟩
  · rw [hb] at h; cases h
  · exact absurd h hc

theorem atEnd_head (ht : atEnd t = true) : ∀ c, t.head? = some c → isBlank c = true ∨ c = '|' := by
  intro c hc
  cases t with
  | nil => cases hc
  | cons d s => cases hc; exact ((atEnd_cons_iff c s).1 ht).imp id And.left

/-- the call sites name only the character `d`; that it is no blank and no bar is found by `decide` -/
theorem atEnd_ne (ht : atEnd t = true) {c : Char} (hc : t.head? = some c) (d : Char)
    (hd : isBlank d = false ∧ d ≠ '|' := by decide) : c ≠ d := by
  intro e; subst e
  rcases atEnd_head ht c hc with hb | hb
  · rw [hb] at hd; cases hd.1
  · exact hd.2 hb

theorem atEnd_extrasFollow (ht : atEnd t = true) : extrasFollow t := extrasFollow_of_head (atEnd_head ht)

theorem component_tail (z : List Char) (ht : atEnd t = true) : component (z ++ t) = mapRest t (component z) := by
  have hn := number_local (atEnd_extrasFollow ht)
  cases z with
  | nil =>
    cases t with
    | nil => rfl
    | cons c r =>
      rw [List.nil_append, component_ne r (atEnd_ne ht rfl 'x') (atEnd_ne ht rfl 'X') (atEnd_ne ht rfl '*'),
        show number (c :: r) = _ from hn []]
      rfl
  | cons c cs =>
    by_cases h1 : c = 'x'
    · subst h1; rfl
    · by_cases h2 : c = 'X'
      · subst h2; rfl
      · by_cases h3 : c = '*'
        · subst h3; rfl
        · rw [List.cons_append, component_ne _ h1 h2 h3, component_ne _ h1 h2 h3, ← List.cons_append, hn]
          cases number (c :: cs) <;> rfl

theorem dotComponent_tail (z : List Char) (ht : atEnd t = true) :
    dotComponent (z ++ t) = ((dotComponent z).1, (dotComponent z).2 ++ t) := by
  cases z with
  | nil =>
    cases t with
    | nil => rfl
    | cons c r => rw [List.nil_append, dotComponent_ne r (atEnd_ne ht rfl '.')]; rfl
  | cons c cs =>
    by_cases hc : c = '.'
    · subst hc
      simp only [List.cons_append, dotComponent]
      rw [component_tail cs ht]
      cases component cs <;> rfl
    · rw [List.cons_append, dotComponent_ne _ hc, dotComponent_ne _ hc]; rfl

theorem partialCore_tail (z : List Char) (ht : atEnd t = true) : partialCore (z ++ t) = mapRest t (partialCore z) := by
  unfold partialCore
  rw [component_tail z ht]
  cases component z with
  | none => rfl
  | some x =>
    simp only [mapRest, Option.map_some]
    rw [dotComponent_tail x.2 ht]
    simp only
    rw [dotComponent_tail (dotComponent x.2).2 ht]
    simp only
    by_cases hs : (dotComponent (dotComponent x.2).2).1.isSome = true
    · simp only [hs, if_true]
      rw [extras_local (atEnd_extrasFollow ht)]
    · simp only [hs, Bool.false_eq_true, if_false]

theorem stripV_tail (z : List Char) (ht : atEnd t = true) : stripV (z ++ t) = stripV z ++ t := by
  cases z with
  | nil =>
    cases t with
    | nil => rfl
    | cons c r => exact stripV_ne r (atEnd_ne ht rfl 'v')
  | cons c cs =>
    by_cases hc : c = 'v'
    · subst hc; rfl
    · rw [List.cons_append, stripV_ne _ hc, stripV_ne _ hc]; rfl

theorem dropBlanks_cons_blank {c : Char} (s : List Char) (h : isBlank c = true) :
    dropBlanks (c :: s) = dropBlanks s := by
  simp only [dropBlanks, span, h, if_true]

theorem dropBlanks_nonblank {c : Char} {s : List Char} (h : isBlank c = false) : dropBlanks (c :: s) = c :: s := by
  simp only [dropBlanks, span, h, Bool.false_eq_true, if_false]

/-- skipping blanks across the junction: either something of `z` is left, or the skip runs on into `t` -/
theorem dropBlanks_junction (z t : List Char) :
    dropBlanks (z ++ t) = if dropBlanks z = [] then dropBlanks t else dropBlanks z ++ t := by
  induction z with
  | nil => rfl
  | cons c cs ih =>
    cases hc : isBlank c with
    | true => rw [List.cons_append, dropBlanks_cons_blank _ hc, dropBlanks_cons_blank _ hc, ih]
    | false =>
      rw [List.cons_append, dropBlanks_nonblank hc, dropBlanks_nonblank hc, if_neg (List.cons_ne_nil _ _)]
      rfl

theorem operation_tail (z : List Char) (ht : atEnd t = true) : operation (z ++ t) = mapRest t (operation z) := by
  -- `t` does not start with the `=` that `>` and `<` look for
  have hne : ∀ c r, t = c :: r → c ≠ '=' := fun c r e => atEnd_ne ht (by rw [e]; rfl) '='
  cases z with
  | nil =>
    cases t with
    | nil => rfl
    | cons c r =>
      rw [List.nil_append, operation_none_of_head (atEnd_ne ht rfl '>') (atEnd_ne ht rfl '=') (atEnd_ne ht rfl '<')]
      rfl
  | cons c rest =>
    rw [List.cons_append]
    by_cases h1 : c = '>'
    · subst h1
      cases rest with
      | nil =>
        cases t with
        | nil => rfl
        | cons e r => rw [List.nil_append, operation_gt_ne r (hne e r rfl)]; rfl
      | cons d r =>
        by_cases hd : d = '='
        · subst hd; rfl
        · rw [List.cons_append, operation_gt_ne _ hd, operation_gt_ne _ hd]; rfl
    · by_cases h2 : c = '='
      · subst h2; rfl
      · by_cases h3 : c = '<'
        · subst h3
          cases rest with
          | nil =>
            cases t with
            | nil => rfl
            | cons e r => rw [List.nil_append, operation_lt_ne r (hne e r rfl)]; rfl
          | cons d r =>
            by_cases hd : d = '='
            · subst hd; rfl
            · rw [List.cons_append, operation_lt_ne _ hd, operation_lt_ne _ hd]; rfl
        · rw [operation_none_of_head h1 h2 h3, operation_none_of_head h1 h2 h3]; rfl

theorem stripGt_tail (z : List Char) (ht : atEnd t = true) : stripGt (z ++ t) = ((stripGt z).1, (stripGt z).2 ++ t) := by
  cases z with
  | nil =>
    cases t with
    | nil => rfl
    | cons c r => exact stripGt_ne r (atEnd_ne ht rfl '>')
  | cons c cs =>
    by_cases hc : c = '>'
    · subst hc; rfl
    · rw [List.cons_append, stripGt_ne _ hc, stripGt_ne _ hc]; rfl

theorem dash_tail (z : List Char) (ht : atEnd t = true) : dash (z ++ t) = (dash z).map (· ++ t) := by
  cases z with
  | nil =>
    cases t with
    | nil => rfl
    | cons c r => exact dash_ne r (atEnd_ne ht rfl '-')
  | cons c cs =>
    by_cases hc : c = '-'
    · subst hc; rfl
    · rw [List.cons_append, dash_ne _ hc, dash_ne _ hc]; rfl

end Semver
