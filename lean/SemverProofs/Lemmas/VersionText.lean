import SemverProofs.Lemmas.Text
import SemverSpec.VersionGrammar
/-!
# The grammar's words in the model's, and the identifier-list parser against the grammar

`Spec.digit`, `letter`, `idChar`, `blank` are definitionally `isDigit`, `isAlpha`, `isIdChar`, `isBlank`
(only `Spec.decimal` and `valOf` differ in form); proofs pass facts about the model's classes where
the grammar asks for the specification's.
-/
namespace Semver
open Spec

theorem char_le_iff (a b : Char) : a ≤ b ↔ a.toNat ≤ b.toNat := Iff.rfl

theorem digit_eq (c : Char) : Spec.digit c = isDigit c := rfl
theorem idChar_eq (c : Char) : Spec.idChar c = isIdChar c := rfl
theorem blank_eq (c : Char) : Spec.blank c = isBlank c := rfl

theorem decimal_foldl (ds : List Char) (a : Nat) :
    ds.foldl (fun n c => 10 * n + (c.toNat - 48)) a = ds.foldl (fun acc c => acc * 10 + digitVal c) a := by
  induction ds generalizing a with
  | nil => rfl
  | cons c cs ih => simp only [List.foldl_cons, digitVal]; rw [Nat.mul_comm 10 a]; exact ih _

theorem decimal_eq (ds : List Char) : Spec.decimal ds = valOf ds := decimal_foldl ds 0

theorem utf8Length_eq (s : List Char) : Spec.utf8Length s = utf8Len s := by
  simp [Spec.utf8Length, utf8Len, List.sum_eq_foldl]

theorem U64_eq : U64 = 18446744073709551616 := rfl
theorem MAX_eq : MAX_SAFE_INTEGER = 900719925474099 := rfl

theorem numText_iff {A : List Char} {n : Nat} :
    NumText A n ↔ A ≠ [] ∧ A.all isDigit = true ∧ valOf A = n ∧ n ≤ MAX_SAFE_INTEGER := by
  unfold NumText
  rw [decimal_eq]
  exact Iff.rfl

theorem idText_iff {t : List Char} {i : Ident} :
    IdText t i ↔ t ≠ [] ∧ t.all isIdChar = true ∧ i = classify t := by
  unfold IdText classify
  rw [decimal_eq]
  exact Iff.rfl

theorem number_append {A rest : List Char} {n : Nat} (h : NumText A n)
    (hr : ∀ c, rest.head? = some c → isDigit c = false) : number (A ++ rest) = .ok n rest := by
  obtain ⟨h1, h2, rfl, h4⟩ := numText_iff.1 h
  have h5 : ¬ U64 ≤ valOf A := Nat.not_le.2 (Nat.lt_of_le_of_lt h4 MAX_lt_U64)
  unfold number
  rw [span_append isDigit A rest h2 hr]
  simp [h1, h5, Nat.not_lt.2 h4]

theorem identifier_append {t rest : List Char} {i : Ident} (h : IdText t i)
    (hr : ∀ c, rest.head? = some c → isIdChar c = false) : identifier (t ++ rest) = .ok i rest := by
  obtain ⟨h1, h2, rfl⟩ := idText_iff.1 h
  unfold identifier
  rw [span_append isIdChar t rest h2 hr]
  simp [h1]

theorem identifier_err_of_head {s : List Char} (h : ∀ c, s.head? = some c → isIdChar c = false) :
    ∃ e, identifier s = .err e := by
  unfold identifier
  rw [show span isIdChar s = ([], s) from span_append isIdChar [] s rfl h]
  exact ⟨_, rfl⟩

theorem identTail_sound (fuel : Nat) (s : List Char) :
    ∃ T, s = T ++ (identTail fuel s).2 ∧ TailText T (identTail fuel s).1 := by
  induction fuel generalizing s with
  | zero => exact ⟨[], rfl, .nil⟩
  | succ n ih =>
    unfold identTail
    split
    · split
      · next h =>
        obtain ⟨t, rfl, h1, h2, h3, _⟩ := identifier_ok h
        obtain ⟨T, hT, htail⟩ := ih _
        exact ⟨'.' :: (t ++ T), by simp [← hT], .cons (idText_iff.2 ⟨h1, h2, h3⟩) htail⟩
      · exact ⟨[], rfl, .nil⟩
    · exact ⟨[], rfl, .nil⟩

theorem tailText_length {T : List Char} {ids : List Ident} (h : TailText T ids) : ids.length ≤ T.length := by
  induction h with
  | nil => simp
  | cons _ _ ih => simp; omega

def idFollow (rest : List Char) : Prop := ∀ c, rest.head? = some c → isIdChar c = false ∧ c ≠ '.'

theorem tailText_head {T rest : List Char} {ids : List Ident} (h : TailText T ids) (hr : idFollow rest) :
    ∀ c, (T ++ rest).head? = some c → isIdChar c = false := by
  cases h with
  | nil => exact fun c hc => (hr c hc).1
  | cons _ _ => exact forall_head_cons (by decide)

theorem identTail_not_dot (m : Nat) {s : List Char} (h : ∀ u, s ≠ '.' :: u) : identTail m s = ([], s) := by
  cases m with
  | zero => rfl
  | succ m =>
    unfold identTail
    split
    · exact absurd rfl (h _)
    · rfl

theorem identTail_append {T : List Char} {ids : List Ident} (h : TailText T ids) (rest : List Char)
    (hr : idFollow rest) (fuel : Nat) (hf : ids.length ≤ fuel) :
    identTail fuel (T ++ rest) = (ids, rest) := by
  induction h generalizing fuel with
  | nil => exact identTail_not_dot fuel fun u h => (hr '.' (by rw [List.nil_append] at h; rw [h]; rfl)).2 rfl
  | cons hid htail ih =>
    cases fuel with
    | zero => simp at hf
    | succ n =>
      unfold identTail
      simp only [List.cons_append, List.append_assoc]
      rw [identifier_append hid (tailText_head htail hr)]
      simp only
      rw [ih n (by simp at hf; omega)]

theorem identList_ok {s r : List Char} {ids : List Ident} (h : identList s = .ok ids r) :
    ∃ T, s = T ++ r ∧ IdsText T ids := by
  unfold identList at h
  split at h
  · cases h
  · next h' =>
    cases h
    obtain ⟨t, rfl, h1, h2, h3, _⟩ := identifier_ok h'
    obtain ⟨T, hT, htail⟩ := identTail_sound _ _
    exact ⟨t ++ T, by rw [List.append_assoc, ← hT], t, _, T, _, rfl, rfl, idText_iff.2 ⟨h1, h2, h3⟩, htail⟩

theorem identList_append {T : List Char} {ids : List Ident} (h : IdsText T ids) (rest : List Char)
    (hr : idFollow rest) : identList (T ++ rest) = .ok ids rest := by
  obtain ⟨t, i, T', is, rfl, rfl, hid, htail⟩ := h
  have hl := tailText_length htail
  unfold identList
  rw [List.append_assoc, identifier_append hid (tailText_head htail hr)]
  simp only
  rw [identTail_append htail rest hr _ (by simp; omega)]

theorem idsText_head {T : List Char} {ids : List Ident} (h : IdsText T ids) :
    ∃ c t, T = c :: t ∧ isIdChar c = true := by
  obtain ⟨t, i, T', is, rfl, rfl, hid, _⟩ := h
  obtain ⟨hne, hall, _⟩ := idText_iff.1 hid
  obtain ⟨c, cs, rfl, hc, _⟩ := exists_cons_of_all hne hall
  exact ⟨c, cs ++ T', rfl, hc⟩

end Semver
