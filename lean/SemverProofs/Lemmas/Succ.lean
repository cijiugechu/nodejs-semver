import SemverProofs.Lemmas.Gate
/-!
# Successor structure of the precedence order (needed by `min_version`, C11)

* `T-ids.0` is the immediate successor of the prerelease `T-ids`;
* the first prerelease `T'-0` of the next patch tuple is the immediate successor of the release `T`;
* `0.0.0-0` is the least version;
* strictly below the release `T` lie, on its tuple, only prereleases.
-/
namespace Semver
open Std

/-- immediate successor of a prerelease: append `.0` (what `minCandidates` tries after `>v`) -/
def succPre (v : Version) : Version := { v with pre := v.pre ++ [.num 0] }

theorem lt_succPre (v : Version) (hv : v.pre ≠ []) : v < succPre v := by
  rw [lt_iff_fields]
  simp [succPre, cmpPre_snoc hv]

theorem succPre_le (v w : Version) (hv : v.pre ≠ []) (h : v < w) : succPre v ≤ w := by
  rw [lt_iff_fields] at h
  rw [le_iff_fields]
  have := @cmpPre_snoc_le v.pre w.pre hv
  simp only [succPre]
  grind

def succRel (v : Version) : Version := { v with patch := v.patch + 1, pre := [.num 0] }

theorem lt_succRel (v : Version) : v < succRel v := by
  rw [lt_iff_fields]
  simp [succRel]

theorem succRel_le (v w : Version) (hv : v.pre = []) (h : v < w) : succRel v ≤ w := by
  rw [lt_iff_fields, hv] at h
  rw [le_iff_fields]
  have := cmpPre_nil_ne_lt w.pre
  have := cmpPre_zero_le w.pre
  simp only [succRel]
  grind

/-- `0.0.0-0` (the parser's `zero0`), the first candidate of `minCandidates` when there is no lower bound -/
def leastV : Version := ⟨0, 0, 0, [.num 0], []⟩

theorem leastV_le (w : Version) : leastV ≤ w := by
  rw [le_iff_fields]
  have := cmpPre_zero_le w.pre
  simp only [leastV]
  grind

theorem pre_of_lt_release {w r : Version} (hr : r.pre = []) (h : w < r) (ht : sameTuple w r = true) :
    w.isPre = true := by
  rw [lt_iff_fields, hr] at h
  rw [sameTuple_iff] at ht
  simp only [Version.isPre, Bool.not_eq_true', List.isEmpty_eq_false_iff]
  grind

end Semver
