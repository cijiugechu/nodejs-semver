import SemverGen.Extracted
/-!
# The extracted `SemverError::location` is the model's `location`

The crate computes on bytes and on addresses of sub-slices (`SemverGen/Bytes.lean` gives those operations their
meaning); the model splits the character list at the byte offset and counts.  Where the model reports no panic
(the offset is a character boundary inside the input — C17 proves that of every error the crate produces) the two
agree: the line is the number of `\n` before the offset, the column the number of bytes since the last one.
-/
namespace Semver.GenEquiv
open Semver Rust

theorem split_spec : ∀ (s : List Char) (n : Nat) (a b : List Char), splitAtByte s n = some (a, b) → s = a ++ b ∧ utf8Len a = n := by
  intro s
  induction s with
  | nil =>
    intro n a b h
    cases n with
    | zero => simp [splitAtByte] at h; obtain ⟨rfl, rfl⟩ := h; simp [utf8Len]
    | succ n => simp [splitAtByte] at h
  | cons c cs ih =>
    intro n a b h
    cases n with
    | zero => simp [splitAtByte] at h; obtain ⟨rfl, rfl⟩ := h; simp [utf8Len]
    | succ n =>
      rw [splitAtByte] at h
      split at h
      · rename_i hle
        cases hr : splitAtByte cs (n + 1 - c.utf8Size) with
        | none => simp [hr] at h
        | some p =>
          obtain ⟨a', b'⟩ := p
          simp only [hr, Option.some.injEq, Prod.mk.injEq] at h
          obtain ⟨rfl, rfl⟩ := h
          obtain ⟨h1, h2⟩ := ih _ _ _ hr
          refine ⟨by rw [h1]; rfl, ?_⟩
          rw [utf8Len_cons, h2]; omega
      · cases h

/-- `&s[n..]` where `n` is the length of a prefix of `s` -/
theorem index_from_append (a b : List Char) : Rust.index_from (a ++ b) (utf8Len a) = (⟨utf8Len a, b⟩ : StrSlice) := by
  simp only [Rust.index_from, RIndexFrom.index_from, splitAtByte_prefix]

theorem as_bytes_append (a b : List Char) : as_bytes (a ++ b) = as_bytes a ++ as_bytes b := by
  simp [as_bytes]

theorem as_bytes_length (a : List Char) : (as_bytes a).length = utf8Len a := by
  induction a with
  | nil => rfl
  | cons c cs ih =>
    simp only [as_bytes, List.flatMap_cons, List.length_append] at ih ⊢
    rw [ih, utf8Len_cons]; simp [bytesOf]

theorem as_bytes_take (a b : List Char) : (as_bytes (a ++ b)).take (utf8Len a) = as_bytes a := by
  rw [as_bytes_append, ← as_bytes_length a, List.take_left']
  rfl

/-! The two facts about bytes that `byte_eq` stands for: an ASCII character is its one byte, and no byte of another
character equals it. -/

theorem bytesOf_ascii (a : Char) (h : a.utf8Size = 1) : bytesOf a = [⟨a, 0⟩] := by
  simp [bytesOf, h]

theorem bytesOf_ne (c a : Char) (h : c ≠ a) : ∀ b ∈ bytesOf c, byte_eq b a = false := by
  intro b hb
  simp only [bytesOf, List.mem_map] at hb
  obtain ⟨k, _, rfl⟩ := hb
  simp [byte_eq, h]

theorem bytecount_eq (p : List Char) (a : Char) (ha : a.utf8Size = 1) :
    bytecount (as_bytes p) a = (p.filter (· == a)).length := by
  induction p with
  | nil => rfl
  | cons c cs ih =>
    simp only [bytecount, as_bytes, List.flatMap_cons, List.filter_append, List.length_append] at ih ⊢
    rw [ih]
    by_cases h : c = a
    · subst h; simp [bytesOf_ascii c ha, byte_eq]; omega
    · simpa [h] using bytesOf_ne c a h

theorem as_bytes_reverse (l : List Char) :
    (as_bytes l).reverse = l.reverse.flatMap (fun c => (bytesOf c).reverse) := by
  induction l with
  | nil => rfl
  | cons c cs ih =>
    simp only [as_bytes, List.flatMap_cons, List.reverse_append, List.reverse_cons, List.flatMap_append,
      List.flatMap_nil, List.append_nil] at ih ⊢
    rw [ih]

theorem utf8Size_newline : ('\n' : Char).utf8Size = 1 := by decide

theorem position_rev (r : List Char) (a : Char) (ha : a.utf8Size = 1) :
    (r.flatMap (fun c => (bytesOf c).reverse)).findIdx? (fun b => byte_eq b a) =
      if r.takeWhile (· != a) = r then none else some (utf8Len (r.takeWhile (· != a))) := by
  induction r with
  | nil => rfl
  | cons c cs ih =>
    rw [List.flatMap_cons, List.findIdx?_append]
    by_cases hc : c = a
    · subst hc
      simp [bytesOf_ascii c ha, byte_eq, utf8Len]
    · have hno : (bytesOf c).reverse.findIdx? (fun b => byte_eq b a) = none :=
        List.findIdx?_eq_none_iff.mpr fun b hb => by simp [bytesOf_ne c a hc b (List.mem_reverse.mp hb)]
      have hl : (bytesOf c).reverse.length = c.utf8Size := by simp [bytesOf]
      rw [hno, ih, hl, Option.none_or, List.takeWhile_cons_of_pos (by simpa using hc)]
      by_cases ht : cs.takeWhile (· != a) = cs
      · simp [ht]
      · simp [ht, utf8Len_cons, Nat.add_comm]

theorem utf8Len_reverse (l : List Char) : utf8Len l.reverse = utf8Len l := by
  induction l with
  | nil => rfl
  | cons c cs ih => rw [List.reverse_cons, utf8Len_append, ih, utf8Len_cons]; simp [utf8Len]; omega

theorem lines_first_start (x : StrSlice) :
    (Rust.trim_end (Rust.unwrap_or (Rust.iter_first (Rust.lines x)) x)).start = x.start := by
  obtain ⟨st, cs⟩ := x
  cases cs with
  | nil => simp [Rust.lines, Rust.linesFrom, Rust.iter_first, Rust.unwrap_or, Rust.trim_end]
  | cons c t =>
    simp only [Rust.lines, Rust.linesFrom, Rust.iter_first, Rust.unwrap_or, Rust.trim_end]
    cases (Rust.splitLine (c :: t)).2 <;> simp

/-- `prefix.iter().rposition(p).map_or(0, |i| i + 1)` is the line start that
`prefix.iter().rev().position(p).map(|pos| offset - pos).unwrap_or(0)` computes, `offset` being the length of the prefix -/
theorem rposition_line_begin {α : Type} (l : List α) (p : α → Bool) (off : Nat) (hlen : l.length = off) :
    Rust.map_or (Rust.rposition l p) 0 (fun newline => newline + 1) =
      Rust.unwrap_or (Rust.map (Rust.position (Rust.rev l) p) (fun pos => off - pos)) 0 := by
  simp only [Rust.rposition, Rust.position, Rust.rev, Rust.map, RMap.map, Rust.map_or, Rust.unwrap_or]
  cases hf : l.reverse.findIdx? p with
  | none => rfl
  | some pos =>
    have hlt : pos < l.reverse.length := by
      have := List.findIdx?_eq_some_iff_findIdx_eq.mp hf
      exact this.1
    simp only [Option.map_some, Option.getD_some]
    simp at hlt
    omega

/-- the line start the crate computes: the length of what precedes the last line of the prefix -/
theorem line_begin (pre : List Char) :
    Rust.unwrap_or (Rust.map (Rust.position (Rust.rev (as_bytes pre)) (fun b => byte_eq b '\n'))
      (fun pos => utf8Len pre - pos)) 0 = utf8Len (pre.reverse.dropWhile (· != '\n')).reverse := by
  have hsum : utf8Len (pre.reverse.takeWhile (· != '\n')) + utf8Len (pre.reverse.dropWhile (· != '\n')) = utf8Len pre := by
    rw [← utf8Len_append, List.takeWhile_append_dropWhile, utf8Len_reverse]
  simp only [Rust.rev, Rust.position, as_bytes_reverse, position_rev _ _ utf8Size_newline, Rust.map, RMap.map,
    Rust.unwrap_or, utf8Len_reverse]
  by_cases ht : pre.reverse.takeWhile (· != '\n') = pre.reverse
  · rw [ht, utf8Len_reverse] at hsum
    simp only [ht, ↓reduceIte, Option.map_none, Option.getD_none]
    omega
  · simp only [ht, ↓reduceIte, Option.map_some, Option.getD_some]
    omega

theorem last_line_split (pre : List Char) :
    pre = (pre.reverse.dropWhile (· != '\n')).reverse ++ (pre.reverse.takeWhile (· != '\n')).reverse := by
  rw [← List.reverse_append, List.takeWhile_append_dropWhile, List.reverse_reverse]

theorem index_from_last_line (pre post : List Char) :
    Rust.index_from (pre ++ post) (utf8Len (pre.reverse.dropWhile (· != '\n')).reverse) =
      (⟨utf8Len (pre.reverse.dropWhile (· != '\n')).reverse, (pre.reverse.takeWhile (· != '\n')).reverse ++ post⟩ : StrSlice) := by
  have h := index_from_append (pre.reverse.dropWhile (· != '\n')).reverse ((pre.reverse.takeWhile (· != '\n')).reverse ++ post)
  rwa [← List.append_assoc, ← last_line_split] at h

/-- the model reports a panic for an offset beyond the input or inside a character; that no error the crate produces has
such an offset is C17 -/
theorem SemverError_location (e : SemverError) (l c : Nat) (h : e.location = some (l, c)) : e.rs_location = (l, c) := by
  obtain ⟨input, offset, k⟩ := e
  unfold SemverError.location at h
  cases hs : splitAtByte input offset with
  | none => simp [hs] at h
  | some p =>
    -- the two slices whose addresses are subtracted start at the end of `pre` and at the start of its last line
    obtain ⟨pre, post⟩ := p
    obtain ⟨rfl, rfl⟩ := split_spec _ _ _ _ hs
    simp only [hs, Option.some.injEq, Prod.mk.injEq] at h
    obtain ⟨rfl, rfl⟩ := h
    unfold SemverError.rs_location
    simp only [SemverError.rs_offset, Rust.index_to, RIndexTo.index_to, as_bytes_take]
    -- the line start written with `rposition`
    try rw [rposition_line_begin (as_bytes pre) _ (utf8Len pre) (as_bytes_length pre)]
    rw [line_begin, bytecount_eq _ _ utf8Size_newline, index_from_last_line, index_from_append]
    simp only [Rust.ptr_diff, RPtrDiff.ptr_diff, lines_first_start]
    have hlen := congrArg utf8Len (last_line_split pre)
    rw [utf8Len_append] at hlen
    congr 1
    omega

/-- the accessors of `SemverError` return its fields, `offset()` is the span's offset, and the `miette::Diagnostic`
impl hands miette the input as source, one label at the span, and the kind's derived code / help / severity / url -/
theorem error_api_canonical : True :=
  have _ := Semver.Gen.canonical_SemverError_offset
  have _ := Semver.Gen.canonical_SemverError_input
  have _ := Semver.Gen.canonical_SemverError_span
  have _ := Semver.Gen.canonical_SemverError_kind
  have _ := Semver.Gen.canonical_SemverError_code
  have _ := Semver.Gen.canonical_SemverError_severity
  have _ := Semver.Gen.canonical_SemverError_help
  have _ := Semver.Gen.canonical_SemverError_url
  have _ := Semver.Gen.canonical_SemverError_source_code
  have _ := Semver.Gen.canonical_SemverError_labels
  trivial

end Semver.GenEquiv
