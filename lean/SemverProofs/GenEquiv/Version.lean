import SemverGen.Tactics
import SemverGen.Extracted
import SemverProofs.GenEquiv.Loops
/-!
# The definitions extracted from `src/lib.rs` are the model's definitions (versions)

One theorem per extracted function: the mechanical translation of the function's current source text
(`SemverGen/Extracted.lean`, regenerated on every run) computes the same function as the hand-written
model definition the property theorems are about.  A change to the Rust function changes the left-hand
side; the proof below then has to go through for the new text or the check reports the broken tie.

A failure is attributed to the declaration it occurs in, which is then admitted, and a property lists its tie theorems by
name (`source_tie`).  So what depends on the text of a generated definition is proved inside the theorem listed for it;
only facts about the prelude and the model are factored out: a general theorem with the listed one as its corollary
would take the failure and let the listed one pass.
-/
namespace Semver.GenEquiv
open Semver Rust

theorem const_MAX_SAFE_INTEGER : Semver.Gen.MAX_SAFE_INTEGER = Semver.MAX_SAFE_INTEGER := rfl
theorem const_MAX_LENGTH : Semver.Gen.MAX_LENGTH = Semver.MAX_LENGTH := rfl

/-! ### markers

The translator emits a marker (`Semver.Gen.shape_*`, `names_as_expected`, `canonical_*`, …) only if what its docstring in
`Extracted.lean` says holds of the source; nothing in Lean proves it.  The theorems `… : True` here and in the other files
only name the markers, so that a missing one breaks the tie of the properties that list the theorem. -/

theorem shapes_version : True :=
  have _ := Semver.Gen.shape_Identifier
  have _ := Semver.Gen.shape_Version
  have _ := Semver.Gen.build_Version
  have _ := Semver.Gen.shape_VersionDiff
  trivial

theorem names_as_expected : True := Semver.Gen.names_as_expected

theorem declarations_as_expected : True := Semver.Gen.declarations_as_expected

theorem partial_cmp_Version : True := Semver.Gen.partial_cmp_is_cmp_Version

theorem n_le (a b : Nat) : Rust.le a b = decide (a ≤ b) := by
  simp only [Rust.le, ROrd.cmp]
  rw [Bool.eq_iff_iff]
  simp [Nat.compare_eq_gt]

theorem n_gt (a b : Nat) : Rust.gt a b = decide (b < a) := by
  simp only [Rust.gt, ROrd.cmp]
  rw [Bool.eq_iff_iff]
  simp [Nat.compare_eq_gt]

theorem listEq_char (a b : List Char) : listEq a b = (a == b) := by
  induction a generalizing b with
  | nil => cases b <;> simp [listEq]
  | cons x xs ih => cases b with
    | nil => simp [listEq]
    | cons y ys => simp [listEq, REq.eq, ih]

theorem Ident_eq (a b : Ident) : Ident.rs_eq a b = (a == b) := by
  cases a <;> cases b <;> simp [Ident.rs_eq, REq.eq, listEq_char] <;> (rw [Bool.eq_iff_iff]; simp)

theorem listEq_ident (a b : List Ident) : listEq a b = (a == b) := by
  induction a generalizing b with
  | nil => cases b <;> simp [listEq]
  | cons x xs ih => cases b with
    | nil => simp [listEq]
    | cons y ys => simp [listEq, REq.eq, ih, Ident_eq]

theorem Ident_cmp (a b : Ident) : Ident.rs_cmp a b = cmpIdent a b := by
  cases a <;> cases b <;> rfl

theorem Ident_fmt (a : Ident) : Ident.rs_fmt a = a.render := by
  cases a <;> rfl

theorem Version_is_prerelease (v : Version) : v.rs_is_prerelease = v.isPre := rfl

theorem Version_eq (a b : Version) : Version.rs_eq a b = a.beq b := by
  simp [Version.rs_eq, Version.beq, REq.eq, listEq_ident, Bool.and_assoc]

theorem Ident_cmp_fun : Ident.rs_cmp = cmpIdent := funext fun a => funext (Ident_cmp a)

theorem vec_len (l : List Ident) : Rust.len l = l.length := rfl

theorem Version_cmp (a b : Version) : Version.rs_cmp a b = cmpVersion a b := by
  unfold Version.rs_cmp cmpVersion
  simp only [compareLex, compareOn, ROrd.cmp, Id.run]
  cases compare a.major b.major with
  | lt => rfl
  | gt => rfl
  | eq =>
  cases compare a.minor b.minor with
  | lt => rfl
  | gt => rfl
  | eq =>
  cases compare a.patch b.patch with
  | lt => rfl
  | gt => rfl
  | eq =>
  rcases hp : a.pre with _ | ⟨x, xs⟩ <;> rcases hq : b.pre with _ | ⟨y, ys⟩ <;>
    simp [vec_len, cmpPre, Ident_cmp_fun, Ordering.then]

theorem v_cmp (a b : Version) : ROrd.cmp a b = cmpVersion a b := Version_cmp a b

theorem Version_hash (v : Version) : v.rs_hash = v.hashKey := rfl

theorem Version_diff (a b : Version) : Version.rs_diff a b = Version.diff a b := by
  unfold Version.rs_diff Version.diff
  simp only [v_cmp, Id.run, Version_is_prerelease]
  -- the same chain of tests is the same term; with tests swapped or regrouped, decide by cases on them
  cases cmpVersion a b <;>
    first
    | rfl
    | (simp [REq.eq, Rust.ne] <;> (repeat' split) <;> simp_all)

theorem VersionDiff_fmt (d : VersionDiff) : d.rs_fmt = d.render.toList := by
  cases d <;> simp [VersionDiff.rs_fmt, VersionDiff.render, Id.run]

/-- what the two identifier loops of `Display for Version` append -/
def idsFrom (c : Char) : Nat → List Ident → List Char
  | _, [] => []
  | n, a :: as => (if n = 0 then c else '.') :: (a.render ++ idsFrom c (n + 1) as)

theorem idsFrom_succ (c : Char) (n : Nat) (l : List Ident) : idsFrom c (n + 1) l = idsFrom '.' (n + 1) l := by
  induction l generalizing n with
  | nil => rfl
  | cons a as ih => simp [idsFrom, ih]

theorem idsFrom_dot (n : Nat) (a : Ident) (as : List Ident) :
    a.render ++ idsFrom '.' (n + 1) as = renderIds (a :: as) := by
  induction as generalizing a n with
  | nil => simp [idsFrom, renderIds]
  | cons b bs ih =>
    have := ih (n + 1) b
    simp only [idsFrom, renderIds] at this ⊢
    simp [this]

theorem idsFrom_zero (c : Char) (l : List Ident) :
    idsFrom c 0 l = if l.isEmpty then [] else c :: renderIds l := by
  cases l with
  | nil => rfl
  | cons a as => simp [idsFrom, idsFrom_succ c 0 as, idsFrom_dot]

/-- the identifier loop with the separator chosen by an `if` expression and the lead given as a string (the form the
loop takes when it is extracted into a helper `write_identifiers(f, lead, identifiers)`) -/
def idsFromL (lead : List Char) : Nat → List Ident → List Char
  | _, [] => []
  | n, a :: as => (if n = 0 then lead else ['.']) ++ (a.render ++ idsFromL lead (n + 1) as)

theorem fmt_loopL (lead : List Char) (n : Nat) (l : List Ident) (f : List Char) :
    (enumerateFrom n l).foldl (fun s (x : Nat × Ident) =>
      (s ++ (if REq.eq x.1 0 = true then lead else ['.'])) ++ display x.2) f = f ++ idsFromL lead n l := by
  induction l generalizing n f with
  | nil => simp [enumerateFrom, idsFromL]
  | cons a as ih =>
    simp only [enumerateFrom, List.foldl_cons]
    rw [ih]
    by_cases h : n = 0 <;> simp [h, idsFromL, display, RDisplay.fmt, Ident_fmt, REq.eq]

theorem idsFromL_char (c : Char) (n : Nat) (l : List Ident) : idsFromL [c] n l = idsFrom c n l := by
  induction l generalizing n with
  | nil => rfl
  | cons a as ih => by_cases h : n = 0 <;> simp [idsFromL, idsFrom, ih, h]

/-- the loop with a character as lead and the `if` around the two appends -/
theorem fmt_loop (c : Char) (n : Nat) (l : List Ident) (f : List Char) :
    (enumerateFrom n l).foldl (fun s (x : Nat × Ident) =>
      (if REq.eq x.1 0 = true then s ++ [c] else s ++ ['.']) ++ display x.2) f = f ++ idsFrom c n l := by
  rw [← idsFromL_char, ← fmt_loopL]
  congr 1
  funext s x
  split <;> rfl

theorem dot_loop (n : Nat) (l : List Ident) (f : List Char) :
    l.foldl (fun s (i : Ident) => s ++ (['.'] ++ display i)) f = f ++ idsFrom '.' (n + 1) l := by
  induction l generalizing n f with
  | nil => simp [idsFrom]
  | cons a as ih =>
    simp only [List.foldl_cons]
    rw [ih (n + 1)]
    simp [idsFrom, display, RDisplay.fmt, Ident_fmt]

theorem Version_fmt (v : Version) : v.rs_fmt = v.render := by
  unfold Version.rs_fmt
  first
  | -- the two loops written out in `fmt`
    (simp only [id_run, id_bind, id_pure]
     rw [forIn_fold (g := fun (x : Nat × Ident) s => (if REq.eq x.1 0 = true then s ++ ['+'] else s ++ ['.']) ++ display x.2)]
     · rw [forIn_fold (g := fun (x : Nat × Ident) s => (if REq.eq x.1 0 = true then s ++ ['-'] else s ++ ['.']) ++ display x.2)]
       · simp only [Rust.enumerate, fmt_loop, idsFrom_zero]
         simp [Version.render, renderCore, display, RDisplay.fmt]
       · intro x s; obtain ⟨i, ident⟩ := x; simp only; split <;> rfl
     · intro x s; obtain ⟨i, ident⟩ := x; simp only; split <;> rfl)
  | -- the loop extracted into a helper that is handed the formatter, the lead and the identifiers
    (unfold_auto_helpers
     simp only [id_run, id_bind, id_pure]
     rw [forIn_fold (g := fun (x : Nat × Ident) s => (s ++ (if REq.eq x.1 0 = true then ['-'] else ['.'])) ++ display x.2)
           (h := fun _ _ => rfl),
         forIn_fold (g := fun (x : Nat × Ident) s => (s ++ (if REq.eq x.1 0 = true then ['+'] else ['.'])) ++ display x.2)
           (h := fun _ _ => rfl)]
     simp only [Rust.enumerate, fmt_loopL, idsFromL_char, idsFrom_zero]
     simp [Version.render, renderCore, display, RDisplay.fmt])
  | -- a helper that writes the lead and the first identifier, then `.` and each of the rest
    (unfold_auto_helpers
     simp only [id_run, id_bind, id_pure]
     have hl : ∀ (l : List Ident) (f : List Char),
         (forIn l f (fun ident s => ForInStep.yield (s ++ '.' :: ident.render)) : Id (List Char)) = f ++ idsFrom '.' 1 l := by
       intro l f
       rw [forIn_fold (g := fun (i : Ident) s => s ++ '.' :: i.render) (h := fun _ _ => rfl)]
       have := dot_loop 0 l f
       simp only [display, RDisplay.fmt, Ident_fmt, List.singleton_append] at this
       exact this
     have hd := idsFrom_dot 0
     rcases hp : v.pre with _ | ⟨a, as⟩ <;> rcases hb : v.build with _ | ⟨b, bs⟩ <;>
       simp [Rust.next, hl, Version.render, renderCore, display, RDisplay.fmt, hp, hb, Ident_fmt, idsFrom, hd])

/-- a conversion is the struct literal of the model, or is written through another conversion
(`..Version::from((major, minor, patch))`): unfold the conversions it goes through -/
macro "from_tac" : tactic => `(tactic| first
  | rfl
  | (simp [Rust.into, RInto.into, Id.run, Version.rs_from_u64x3, Version.rs_from_i64x3, Version.rs_from_u64x4,
      Version.rs_from_i64x4, Version.rs_from_u8x3, Version.rs_from_u16x3, Version.rs_from_u32x3, Version.rs_from_usizex3,
      Version.rs_from_u8x4, Version.rs_from_u16x4, Version.rs_from_u32x4, Version.rs_from_usizex4,
      Version.rs_from_i8x3, Version.rs_from_i16x3, Version.rs_from_i32x3, Version.rs_from_isizex3,
      Version.rs_from_i8x4, Version.rs_from_i16x4, Version.rs_from_i32x4, Version.rs_from_isizex4,
      Version.mk3, Version.mk4]))

theorem from_u8x3 (a b c : Nat) : Version.rs_from_u8x3 (a, b, c) = Version.mk3 a b c := by from_tac
theorem from_u16x3 (a b c : Nat) : Version.rs_from_u16x3 (a, b, c) = Version.mk3 a b c := by from_tac
theorem from_u32x3 (a b c : Nat) : Version.rs_from_u32x3 (a, b, c) = Version.mk3 a b c := by from_tac
theorem from_u64x3 (a b c : Nat) : Version.rs_from_u64x3 (a, b, c) = Version.mk3 a b c := by from_tac
theorem from_usizex3 (a b c : Nat) : Version.rs_from_usizex3 (a, b, c) = Version.mk3 a b c := by from_tac
theorem from_u8x4 (a b c d : Nat) : Version.rs_from_u8x4 (a, b, c, d) = Version.mk4 a b c d := by from_tac
theorem from_u16x4 (a b c d : Nat) : Version.rs_from_u16x4 (a, b, c, d) = Version.mk4 a b c d := by from_tac
theorem from_u32x4 (a b c d : Nat) : Version.rs_from_u32x4 (a, b, c, d) = Version.mk4 a b c d := by from_tac
theorem from_u64x4 (a b c d : Nat) : Version.rs_from_u64x4 (a, b, c, d) = Version.mk4 a b c d := by from_tac
theorem from_usizex4 (a b c d : Nat) : Version.rs_from_usizex4 (a, b, c, d) = Version.mk4 a b c d := by from_tac

theorem as_u64_nonneg (a : Nat) (h : a < 18446744073709551616) : Rust.as_u64 (a : Int) = a := by
  simp only [Rust.as_u64, RAsU64.as_u64]
  omega

/-- a conversion from a signed triple agrees with the model on non-negative values that fit -/
def Signed3 (f : Int × Int × Int → Version) : Prop :=
  ∀ a b c : Nat, a < 18446744073709551616 → b < 18446744073709551616 → c < 18446744073709551616 →
    f ((a : Int), (b : Int), (c : Int)) = Version.mk3 a b c
def Signed4 (f : Int × Int × Int × Int → Version) : Prop :=
  ∀ a b c d : Nat, a < 18446744073709551616 → b < 18446744073709551616 → c < 18446744073709551616 →
    d < 18446744073709551616 → f ((a : Int), (b : Int), (c : Int), (d : Int)) = Version.mk4 a b c d

theorem from_signed3 (f : Int × Int × Int → Version)
    (hf : ∀ x, f x = ⟨Rust.as_u64 x.1, Rust.as_u64 x.2.1, Rust.as_u64 x.2.2, [], []⟩) : Signed3 f := by
  intro a b c ha hb hc
  rw [hf]; simp [as_u64_nonneg, ha, hb, hc, Version.mk3]

theorem from_signed4 (f : Int × Int × Int × Int → Version)
    (hf : ∀ x, f x = ⟨Rust.as_u64 x.1, Rust.as_u64 x.2.1, Rust.as_u64 x.2.2.1, [.num (Rust.as_u64 x.2.2.2)], []⟩) :
    Signed4 f := by
  intro a b c d ha hb hc hd
  rw [hf]; simp [as_u64_nonneg, ha, hb, hc, hd, Version.mk4]

theorem from_i8x3 : Signed3 Version.rs_from_i8x3 := from_signed3 Version.rs_from_i8x3 (fun _ => by from_tac)
theorem from_i16x3 : Signed3 Version.rs_from_i16x3 := from_signed3 Version.rs_from_i16x3 (fun _ => by from_tac)
theorem from_i32x3 : Signed3 Version.rs_from_i32x3 := from_signed3 Version.rs_from_i32x3 (fun _ => by from_tac)
theorem from_i64x3 : Signed3 Version.rs_from_i64x3 := from_signed3 Version.rs_from_i64x3 (fun _ => by from_tac)
theorem from_isizex3 : Signed3 Version.rs_from_isizex3 := from_signed3 Version.rs_from_isizex3 (fun _ => by from_tac)
theorem from_i8x4 : Signed4 Version.rs_from_i8x4 := from_signed4 Version.rs_from_i8x4 (fun _ => by from_tac)
theorem from_i16x4 : Signed4 Version.rs_from_i16x4 := from_signed4 Version.rs_from_i16x4 (fun _ => by from_tac)
theorem from_i32x4 : Signed4 Version.rs_from_i32x4 := from_signed4 Version.rs_from_i32x4 (fun _ => by from_tac)
theorem from_i64x4 : Signed4 Version.rs_from_i64x4 := from_signed4 Version.rs_from_i64x4 (fun _ => by from_tac)
theorem from_isizex4 : Signed4 Version.rs_from_isizex4 := from_signed4 Version.rs_from_isizex4 (fun _ => by from_tac)

end Semver.GenEquiv
