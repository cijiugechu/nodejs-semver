import SemverProofs.GenEquiv.Version
import SemverModel.RangeFmt
import SemverProofs.Lemmas.VersionOrder
/-!
# The definitions extracted from `src/range.rs` are the model's definitions (bounds and bound sets)

Tables are compared shape by shape, early returns are first read as Boolean expressions.  A second alternative or a simp
argument the crate as it is does not need carries a comment saying which other way of writing the source it serves.
-/
namespace Semver.GenEquiv
open Semver Rust Pred Bound

theorem shapes_range : True :=
  have _ := Semver.Gen.shape_Predicate
  have _ := Semver.Gen.shape_Bound
  have _ := Semver.Gen.shape_BoundSet
  have _ := Semver.Gen.build_BoundSet
  have _ := Semver.Gen.shape_Range
  have _ := Semver.Gen.shape_Operation
  have _ := Semver.Gen.shape_Partial
  have _ := Semver.Gen.build_Partial
  trivial

theorem partial_cmp_Bound : True := Semver.Gen.partial_cmp_is_cmp_Bound

theorem v_lt (a b : Version) : Rust.lt a b = vlt a b := by simp [Rust.lt, v_cmp, vlt]
theorem v_le (a b : Version) : Rust.le a b = vle a b := by simp [Rust.le, v_cmp, vle]
theorem v_eq (a b : Version) : REq.eq a b = a.beq b := Version_eq a b

theorem Pred_eq (a b : Pred) : Pred.rs_eq a b = a.beq b := by
  cases a <;> cases b <;> simp [Pred.rs_eq, Pred.beq, v_eq]

theorem Bound_eq (a b : Bound) : Bound.rs_eq a b = a.beq b := by
  cases a <;> cases b <;> simp [Bound.rs_eq, Bound.beq, REq.eq, Pred_eq]

theorem BoundSet_eq (a b : BoundSet) : BoundSet.rs_eq a b = a.beq b := by
  simp [BoundSet.rs_eq, BoundSet.beq, REq.eq, Bound_eq]

theorem Pred_flip (p : Pred) : p.rs_flip = p.flip := by cases p <;> rfl
theorem Bound_upper : Bound.rs_upper = up unb := rfl
theorem Bound_lower : Bound.rs_lower = lo unb := rfl
theorem Bound_predicate (b : Bound) : b.rs_predicate = b.predicate := by cases b <;> rfl

theorem Bound_is_valid (b : Bound) : b.rs_is_valid = b.isValid := by
  rcases b with (p | p) <;> cases p <;>
    -- the `Option` helpers are for a source that takes the version out of the bound first (`Bound::version`)
    simp [Bound.rs_is_valid, Bound.isValid, n_le, Rust.map_or, Rust.is_some_and, Rust.is_none_or, Rust.unwrap_or, Rust.map, RMap.map]

/-- used when a test is written the other way round -/
theorem vle_not_vlt (a b : Version) : vle a b = !vlt b a := by
  have h : cmpVersion a b = (cmpVersion b a).swap := Std.OrientedCmp.eq_swap
  unfold vle vlt
  rw [h]; cases cmpVersion b a <;> rfl

theorem Bound_cmp (a b : Bound) : Bound.rs_cmp a b = cmpBound a b := by
  rcases a with (p | p) <;> rcases b with (q | q) <;> cases p <;> cases q <;>
    simp [Bound.rs_cmp, cmpBound, v_cmp, v_lt, v_le] <;>
    -- a test negated or turned round
    (simp only [vle_not_vlt]; repeat' split) <;> simp_all

theorem b_cmp (a b : Bound) : ROrd.cmp a b = cmpBound a b := Bound_cmp a b
theorem b_lt (a b : Bound) : Rust.lt a b = a.lt b := by simp [Rust.lt, b_cmp, Bound.lt]
theorem b_le (a b : Bound) : Rust.le a b = a.le b := by simp [Rust.le, b_cmp, Bound.le]
theorem b_ge (a b : Bound) : Rust.ge a b = !(a.lt b) := by
  simp only [Rust.ge, b_cmp, Bound.lt]; cases cmpBound a b <;> rfl
theorem b_gt (a b : Bound) : Rust.gt a b = !(a.le b) := by
  simp only [Rust.gt, b_cmp, Bound.le]; cases cmpBound a b <;> rfl
theorem b_max (a b : Bound) : Rust.max a b = Bound.max a b := by simp [Rust.max, Bound.max, b_lt]
theorem b_min (a b : Bound) : Rust.min a b = Bound.min a b := by simp [Rust.min, Bound.min, b_lt]

theorem BoundSet_new (l u : Bound) : BoundSet.rs_new l u = BoundSet.new l u := by
  unfold BoundSet.rs_new BoundSet.new BoundSet.newCore
  simp only [id_run, id_pure, id_ite, Bound_is_valid, b_lt, v_eq]
  -- with a test rewritten (De Morgan on the validity check, merged arms): by cases on the tests
  rcases l with (p | p) <;> rcases u with (q | q) <;> cases p <;> cases q <;>
    first
    | rfl
    | (simp <;> (repeat' split) <;> simp_all)

theorem BoundSet_at_least (p : Pred) : BoundSet.rs_at_least p = BoundSet.atLeast p := by
  simp [BoundSet.rs_at_least, BoundSet.atLeast, BoundSet_new, Bound_upper]
theorem BoundSet_at_most (p : Pred) : BoundSet.rs_at_most p = BoundSet.atMost p := by
  simp [BoundSet.rs_at_most, BoundSet.atMost, BoundSet_new, Bound_lower]
theorem BoundSet_exact (v : Version) : BoundSet.rs_exact v = BoundSet.exact v := by
  simp [BoundSet.rs_exact, BoundSet.exact, BoundSet_new]

theorem n_eq (a b : Nat) : REq.eq a b = (a == b) := rfl

-- so that a helper function someone extracts (translated with `@[simp]`) is normalised like inline code
attribute [simp] n_eq v_le v_lt v_eq

theorem BoundSet_satisfies (s : BoundSet) (v : Version) : s.rs_satisfies v = s.satisfies v := by
  obtain ⟨u, l⟩ := s
  unfold BoundSet.rs_satisfies BoundSet.satisfies BoundSet.within BoundSet.gate sameTuple
  simp only [id_run, id_pure, id_ite]
  -- the early returns as Boolean connectives: both sides become formulas over the same four matches
  simp only [Bool.if_true_left, Bool.if_false_left, Bool.if_true_right, Bool.if_false_right, Bool.decide_eq_true]
  rcases l with (p | p) <;> rcases u with (q | q)
  case lo.up =>
    cases p <;> cases q <;>
      -- `Bool.or_assoc`: for a gate written as one expression, `!pre || lower || upper`
      simp [Version.rs_is_prerelease, Version.isPre, Rust.is_empty, Bool.and_assoc, Bool.or_assoc]
  -- a bound in the wrong slot: the `unreachable!()` arm, `false` in the model
  all_goals simp [Rust.unreachable]

theorem BoundSet_min_version (s : BoundSet) : s.rs_min_version = s.minVersion := by
  obtain ⟨u, l⟩ := s
  have hs : (fun v => BoundSet.rs_satisfies ⟨u, l⟩ v) = fun v => BoundSet.satisfies ⟨u, l⟩ v := by
    funext v; exact BoundSet_satisfies _ v
  unfold BoundSet.rs_min_version BoundSet.minVersion BoundSet.minCandidates
  simp only [id_run, id_pure, id_bind, Version.rs_is_prerelease, Version.isPre, Rust.is_empty, Rust.find, hs]
  rcases l with (p | p) <;> cases p <;> rfl

theorem BoundSet_allows_all (s o : BoundSet) : s.rs_allows_all o = s.allowsAll o := by
  simp [BoundSet.rs_allows_all, BoundSet.allowsAll, b_le]

theorem BoundSet_allows_any (s o : BoundSet) : s.rs_allows_any o = s.allowsAny o := by
  -- `b_ge`, `b_le`, `b_gt`: for tests written with the other comparison operators
  simp only [BoundSet.rs_allows_any, BoundSet.allowsAny, b_lt, b_ge, b_le, b_gt, id_run, id_pure]
  try (cases h1 : o.upper.lt s.lower <;> cases h2 : s.upper.lt o.lower <;> simp_all)

theorem BoundSet_intersect (s o : BoundSet) : s.rs_intersect o = s.intersect o := by
  simp [BoundSet.rs_intersect, BoundSet.intersect, b_max, b_min, BoundSet_new]

/-- what `BoundSet::difference` returns when it does not panic -/
def _root_.Semver.DiffRes.value : DiffRes → Option (List BoundSet)
  | .panic => none
  | .none => none
  | .some l => some l

/-- the extracted `unwrap()` of `None` is `default`; that the model reports no panic on well-formed sets is C06/C08 -/
theorem BoundSet_difference (s o : BoundSet) (h : s.difference o ≠ .panic) :
    s.rs_difference o = (s.difference o).value := by
  unfold BoundSet.rs_difference BoundSet.difference at *
  simp only [id_run, id_pure, BoundSet_intersect, b_lt, Pred_flip, Bound_predicate, BoundSet_new,
    BoundSet_eq, REq.eq, Rust.map, RMap.map]
  revert h
  cases s.intersect o with
  | none => simp [DiffRes.value]
  | some ov =>
    -- both sides are the same function of the three tests and the two calls of `new`, in whatever order the code asks;
    -- each case computes, or the model reports the panic
    simp only []
    generalize ov.beq s = e, s.lower.lt ov.lower = a, ov.upper.lt s.upper = b,
      BoundSet.new s.lower (up ov.lower.predicate.flip) = x, BoundSet.new (lo ov.upper.predicate.flip) s.upper = y
    intro h
    cases e <;> cases a <;> cases b <;> cases x <;> cases y <;> first | rfl | exact absurd rfl h

theorem v_display (v : Version) : Rust.display v = v.render := Version_fmt v

/-- the model's `none` is the `unreachable!` arm -/
theorem BoundSet_fmt (s : BoundSet) (r : List Char) (h : s.render = some r) : s.rs_fmt = r := by
  obtain ⟨u, l⟩ := s
  unfold BoundSet.render at h
  unfold BoundSet.rs_fmt
  simp only [id_run, id_pure, v_display, v_eq]
  rcases l with (p | p) <;> rcases u with (q | q) <;> cases p <;> cases q <;> simp at h ⊢ <;>
    (try split at h) <;> simp_all

end Semver.GenEquiv
