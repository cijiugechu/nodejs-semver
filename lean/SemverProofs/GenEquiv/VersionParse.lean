import SemverProofs.GenEquiv.Version
import SemverModel.Progress
/-!
# The parsers extracted from `src/lib.rs` are the model's parsers

`number`, `identifier`, `pre_release`, `build`, `extras`, `version_core`, `version`: the combinator
expressions of the crate, given their meaning by `SemverGen/Winnow.lean`, against the direct
recursive definitions of `SemverModel/VersionParse.lean` — value, remaining input and every field
of the error (position, context, kind).
-/
namespace Semver.GenEquiv
open Semver Rust Winnow

@[simp] theorem bind_ok {α β : Type} (p : Parser α) (f : α → Parser β) (s : List Char) (a : α) (r : List Char)
    (h : p s = .ok a r) : (p >>= f) s = f a r := by
  show (match p s with | .ok a r => f a r | .err e => .err e) = _
  rw [h]

theorem bind_err {α β : Type} (p : Parser α) (f : α → Parser β) (s : List Char) (e : PErr)
    (h : p s = .err e) : (p >>= f) s = .err e := by
  show (match p s with | .ok a r => f a r | .err e => .err e) = _
  rw [h]

theorem bind_def {α β : Type} (p : Parser α) (f : α → Parser β) (s : List Char) :
    (p >>= f) s = match p s with | .ok a r => f a r | .err e => .err e := rfl

theorem pure_def {α : Type} (a : α) (s : List Char) : (pure a : Parser α) s = .ok a s := rfl

/-! ### the crate's impls of winnow's error traits (`from_error_kind`, `append` for `alt`/`repeat_till`, `add_context` for
`.context(..)`, `from_external_error` for `try_map`) are what `SemverGen/Winnow.lean` assumes of them -/

theorem err_from_error_kind (s : List Char) (k : Unit) : PErr.rs_from_error_kind s k = Winnow.errAt s := rfl
theorem err_append (e : PErr) (s : List Char) (a b : Unit) : e.rs_append s a b = { e with rest := s } := rfl
theorem err_add_context (e : PErr) (s : List Char) (a : Unit) (c : String) : e.rs_add_context s a c = e.withCtx c := rfl
theorem err_from_external_error (s : List Char) (k : Unit) (e : PErr) : PErr.rs_from_external_error s k e = e := rfl

theorem isDecDigit_eq : Winnow.isDecDigit = isDigit := rfl
theorem isSpace_eq : Winnow.isSpace = isBlank := rfl

theorem span_take (p : Char → Bool) (s : List Char) :
    s.take (s.length - (span p s).2.length) = (span p s).1 := by
  obtain ⟨h, -, -⟩ := span_eq_iff.1 (rfl : span p s = _)
  generalize (span p s).1 = a, (span p s).2 = r at h
  subst h
  simp

theorem span_all (p : Char → Bool) (s : List Char) : (span p s).1.all p = true :=
  (span_eq_iff.1 rfl).2.1

theorem idchar_not_plus (c : Char) (h : isIdChar c = true) : (c == '+') = false := by
  cases hc : (c == '+') with
  | false => rfl
  | true => simp at hc; subst hc; exact absurd h (by decide)

theorem str_parse_idchars (t : List Char) (hne : t ≠ []) (hd : t.all isIdChar = true) :
    str_parse_u64 t = if t.all isDigit then (if valOf t < U64 then .ok (valOf t) else .error .posOverflow)
      else .error .invalidDigit := by
  cases t with
  | nil => exact absurd rfl hne
  | cons c cs =>
    have hc : isIdChar c = true := by simp [List.all_cons] at hd; exact hd.1
    simp only [str_parse_u64, idchar_not_plus c hc, Bool.false_eq_true, ↓reduceIte, List.isEmpty_cons]
    cases (c :: cs).all isDigit <;> simp

theorem str_parse_digits (t : List Char) (hne : t ≠ []) (hd : t.all isDigit = true) :
    str_parse_u64 t = if valOf t < U64 then .ok (valOf t) else .error .posOverflow := by
  rw [str_parse_idchars t hne (List.all_eq_true.2 fun c hc => by simp [isIdChar, List.all_eq_true.1 hd c hc]), hd]
  rfl

theorem number_eq (s : List Char) : Semver.Gen.number s = number s := by
  unfold Semver.Gen.number number
  simp only [bind_def, getInput, Winnow.context, Winnow.tryMap, Winnow.take, Winnow.digit1, Winnow.takeWhile1, isDecDigit_eq]
  cases he : (span isDigit s).1.isEmpty with
  | true => simp [errAt, PErr.withCtx]
  | false =>
    have hne : (span isDigit s).1 ≠ [] := by intro h; simp [h] at he
    simp only [Bool.false_eq_true, ↓reduceIte, span_take]
    unfold Semver.Gen.number_check
    simp only [str_parse_digits _ hne (span_all isDigit s), Rust.map_err]
    by_cases h1 : valOf (span isDigit s).1 < U64
    · have h1' : ¬ U64 ≤ valOf (span isDigit s).1 := by omega
      simp only [h1, ↓reduceIte, h1']
      by_cases h2 : MAX_SAFE_INTEGER < valOf (span isDigit s).1
      · simp [bind, Except.bind, n_gt, h2, throw, throwThe, MonadExceptOf.throw, PErr.withCtx]
      · simp [bind, Except.bind, n_gt, h2, pure, Except.pure]
    · have h1' : U64 ≤ valOf (span isDigit s).1 := by omega
      simp [h1, h1', bind, Except.bind, PErr.withCtx, parse_int_error_kind]

theorem idchar_eq : (fun x => (Rust.is_ascii_alphanumeric x || REq.eq x '-')) = isIdChar := by
  funext c
  simp only [Rust.is_ascii_alphanumeric, isIdChar, isDigit, isAlpha, REq.eq, Bool.or_assoc]

theorem classify_eq (t : List Char) (hne : t ≠ []) (hd : t.all isIdChar = true) :
    Semver.Gen.identifier_classify t = classify t := by
  unfold Semver.Gen.identifier_classify classify
  rw [str_parse_idchars t hne hd]
  cases h1 : t.all isDigit
  · simp [Rust.map, RMap.map, Rust.unwrap_or_else]
  · by_cases h2 : valOf t < U64 <;> simp [h2, Rust.map, RMap.map, Rust.unwrap_or_else]

theorem identifier_eq (s : List Char) : Semver.Gen.identifier s = identifier s := by
  unfold Semver.Gen.identifier identifier
  simp only [Winnow.context, Winnow.map, Winnow.takeWhile1, idchar_eq]
  cases he : (span isIdChar s).1.isEmpty with
  | true => simp [errAt, PErr.withCtx]
  | false =>
    have hne : (span isIdChar s).1 ≠ [] := by intro h; simp [h] at he
    simp [classify_eq _ hne (span_all isIdChar s)]

theorem literal_char (c : Char) (s : List Char) :
    Winnow.literal [c] s = match s with
      | d :: t => if c == d then .ok [c] t else .err (errAt s)
      | [] => .err (errAt s) := by
  cases s with
  | nil => simp [Winnow.literal, Winnow.isPrefix]
  | cons d t => simp [Winnow.literal, Winnow.isPrefix]

theorem lit_ne (c d : Char) (t : List Char) (h : d ≠ c) : Winnow.literal [c] (d :: t) = .err (errAt (d :: t)) := by
  have : (c == d) = false := by simp; exact fun h' => h h'.symm
  simp [literal_char, this]

theorem lit_eq (c : Char) (t : List Char) : Winnow.literal [c] (c :: t) = .ok [c] t := by
  simp [literal_char]

theorem lit_nil (c : Char) : Winnow.literal [c] [] = .err (errAt []) := by
  simp [literal_char]

theorem ident_loop (n : Nat) (s : List Char) (h : s.length ≤ n) :
    Winnow.separatedLoop Semver.Gen.identifier (Winnow.literal ['.']) (n + 1) s =
      .ok (identTail n s).1 (identTail n s).2 := by
  induction n generalizing s with
  | zero =>
    have : s = [] := by cases s <;> simp_all
    subst this
    simp [Winnow.separatedLoop, lit_nil, identTail]
  | succ n ih =>
    rw [Winnow.separatedLoop]
    cases s with
    | nil => simp [lit_nil, identTail]
    | cons d t =>
      by_cases hd : d = '.'
      · subst hd
        simp only [lit_eq, List.length_cons]
        rw [identifier_eq]
        cases hi : identifier t with
        | err e => simp [identTail, hi]
        | ok a rest =>
          have hl := identifier_length hi
          have hrest : rest.length ≤ n := by simp at h; omega
          simp only [ih rest hrest, identTail, hi]
          simp
      · simp [lit_ne _ _ _ hd, identTail, hd]

theorem ident_list (s : List Char) :
    Winnow.separated1 Semver.Gen.identifier (Winnow.literal ['.']) s = identList s := by
  unfold Winnow.separated1 identList
  rw [identifier_eq]
  cases hi : identifier s with
  | err e => rfl
  | ok a rest =>
    simp only [ident_loop (rest.length) rest (Nat.le_refl _)]

theorem opt_hyphen (s : List Char) : Winnow.opt (Winnow.literal ['-']) s = .ok (if s.head? = some '-' then some ['-'] else none) (stripHyphen s) := by
  cases s with
  | nil => simp [Winnow.opt, lit_nil, stripHyphen]
  | cons d t =>
    by_cases hd : d = '-'
    · subst hd; simp [Winnow.opt, lit_eq, stripHyphen]
    · simp [Winnow.opt, lit_ne _ _ _ hd, stripHyphen, hd]

theorem pre_release_eq (s : List Char) : Semver.Gen.pre_release s = preRelease s := by
  unfold Semver.Gen.pre_release preRelease
  simp only [Winnow.context, Winnow.preceded, bind_def, opt_hyphen, ident_list]
  cases identList (stripHyphen s) <;> rfl

theorem build_eq (s : List Char) : Semver.Gen.build s = buildMeta s := by
  unfold Semver.Gen.build buildMeta
  simp only [Winnow.context, Winnow.preceded, bind_def]
  cases s with
  | nil => simp [lit_nil, errAt, PErr.withCtx]
  | cons d t =>
    by_cases hd : d = '+'
    · subst hd
      simp only [lit_eq, ident_list]
      cases identList t <;> rfl
    · simp [lit_ne _ _ _ hd, errAt, PErr.withCtx, hd]

theorem extras_eq (s : List Char) : Semver.Gen.extras s = .ok (extras s).1 (extras s).2 := by
  unfold Semver.Gen.extras extras
  simp only [Winnow.map, Winnow.opt, Winnow.alt, Winnow.altFrom, Winnow.seq2, bind_def, pure_def, pre_release_eq, build_eq]
  cases hp : preRelease s with
  | ok p r1 =>
    cases hb : buildMeta r1 with
    | ok b r2 => simp [hb, Semver.Gen.Extras.rs_values]
    | err e => simp [hb, Semver.Gen.Extras.rs_values]
  | err e =>
    cases hb : buildMeta s with
    | ok b r => simp [Semver.Gen.Extras.rs_values]
    | err e2 => rfl

theorem literal_dot (s : List Char) :
    Winnow.literal ['.'] s = match dot s with
      | .ok _ r => .ok ['.'] r
      | .err e => .err e := by
  cases s with
  | nil => simp [lit_nil, dot, errAt]
  | cons d t =>
    by_cases h : d = '.'
    · subst h; simp [lit_eq, dot]
    · simp [lit_ne _ _ _ h, errAt, dot, h]

theorem version_core_eq (s : List Char) : Semver.Gen.version_core s = versionCore s := by
  unfold Semver.Gen.version_core versionCore
  -- `preceded`, `terminated`: for the sequence written as statements through parsers bound by `let`
  simp only [Winnow.context, Winnow.map, Winnow.seq5, Winnow.preceded, Winnow.terminated, bind_def, pure_def, number_eq, literal_dot]
  cases number s with
  | err e => rfl
  | ok a r1 =>
    simp only
    cases dot r1 with
    | err e => rfl
    | ok u r2 =>
      simp only
      cases number r2 with
      | err e => rfl
      | ok b r3 =>
        simp only
        cases dot r3 with
        | err e => rfl
        | ok u2 r4 =>
          simp only
          cases number r4 <;> rfl

theorem space0_eq (s : List Char) : Winnow.space0 s = .ok (span isBlank s).1 (dropBlanks s) := rfl

theorem opt_vV (s : List Char) :
    ∃ x, Winnow.opt (Winnow.alt [Winnow.literal ['v'], Winnow.literal ['V']]) s = .ok x (stripVV s) := by
  cases s with
  | nil => exact ⟨none, by simp [Winnow.opt, Winnow.alt, Winnow.altFrom, lit_nil, stripVV]⟩
  | cons d t =>
    by_cases h1 : d = 'v'
    · subst h1; exact ⟨some ['v'], by simp [Winnow.opt, Winnow.alt, Winnow.altFrom, lit_eq, stripVV]⟩
    · by_cases h2 : d = 'V'
      · subst h2; exact ⟨some ['V'], by simp [Winnow.opt, Winnow.alt, Winnow.altFrom, lit_eq, lit_ne, stripVV]⟩
      · exact ⟨none, by simp [Winnow.opt, Winnow.alt, Winnow.altFrom, lit_ne _ _ _ h1, lit_ne _ _ _ h2, stripVV, h1, h2]⟩

theorem version_eq (s : List Char) : Semver.Gen.version s = versionP s := by
  unfold Semver.Gen.version versionP
  obtain ⟨x, hx⟩ := opt_vV s
  -- `seq2`, `preceded`, `terminated`: as in `version_core_eq`
  simp only [Winnow.context, Winnow.map, Winnow.seq6, Winnow.seq2, Winnow.preceded, Winnow.terminated, bind_def, pure_def, hx,
    space0_eq, version_core_eq, extras_eq]
  cases versionCore (dropBlanks (stripVV s)) with
  | err e => rfl
  | ok abc r =>
    obtain ⟨a, b, c⟩ := abc
    simp only
    cases hr : dropBlanks (extras r).2 with
    | nil => simp [Winnow.eof]
    | cons d t => simp [Winnow.eof, errAt, PErr.withCtx]

theorem Version_parse_eq (s : List Char) (h : ¬ MAX_LENGTH < utf8Len s) :
    Version.parse s = match Semver.Gen.version s with
      | .ok v _ => .ok v
      | .err e => .error ⟨s, utf8Len s - utf8Len e.rest, e.finalKind⟩ := by
  unfold Version.parse
  simp only [h, ↓reduceIte, version_eq]
  cases versionP s <;> rfl

theorem charIndices_last (n : Nat) (s : List Char) :
    (Rust.charIndicesFrom n s).getLast? = s.getLast?.map (fun c => (n + utf8Len s - c.utf8Size, c)) := by
  induction s generalizing n with
  | nil => rfl
  | cons c t ih =>
    cases t with
    | nil => simp [Rust.charIndicesFrom, utf8Len]
    | cons d t2 =>
      have := ih (n + c.utf8Size)
      simp only [Rust.charIndicesFrom, List.getLast?_cons_cons] at this ⊢
      rw [this]
      cases (d :: t2).getLast? with
      | none => rfl
      | some x =>
        simp only [Option.map_some, Option.some.injEq, Prod.mk.injEq, and_true]
        rw [utf8Len_cons c (d :: t2)]
        omega

theorem last_char_offset (s : List Char) :
    Rust.map_or (Rust.next_back (Rust.char_indices s)) 0 (fun (x : Nat × Char) => x.1) =
      match s.getLast? with
      | some c => utf8Len s - c.utf8Size
      | none => 0 := by
  simp only [Rust.next_back, Rust.char_indices, charIndices_last]
  cases s.getLast? <;> simp [Rust.map_or]

theorem str_len (s : List Char) : Rust.len s = utf8Len s := rfl

theorem Version_parse (s : List Char) : Version.rs_parse s = Version.parse s := by
  unfold Version.rs_parse Version.parse
  simp only [str_len, n_gt, Rust.into, RInto.into, Rust.span_offset, id]
  by_cases h : MAX_LENGTH < utf8Len s
  · simp only [h, decide_true, ↓reduceIte]
    have := last_char_offset s
    simp only [bind, Except.bind, throw, throwThe, MonadExceptOf.throw] at this ⊢
    rw [show (fun (x : Nat × Char) => match x with | (i, _) => i) = (fun x => x.1) from by funext x; obtain ⟨i, c⟩ := x; rfl]
    rw [this]
    congr 2 <;> (cases s.getLast? <;> rfl)
  · simp only [h, decide_false, Bool.false_eq_true, ↓reduceIte, Winnow.run, version_eq]
    cases versionP s with
    | ok v r => first | rfl | simp [Rust.map_err, bind, Except.bind, pure, Except.pure]
    | err e =>
      -- the `Result`/`Option` adapters are for an entry point written as `parse_next(..).map_err(..)`
      simp only [bind, Except.bind, pure, Except.pure, throw, throwThe, MonadExceptOf.throw, Rust.ptr_diff, RPtrDiff.ptr_diff, PErr.input,
        PErr.finalKind, PErr.context, Rust.map_err, Rust.unwrap_or, Rust.or_else, Rust.opt_or, Rust.map, RMap.map, Rust.map_or,
        Rust.map_or_else, Rust.and_then]
      congr 2
      cases e.kind <;> cases e.ctx <;> rfl

theorem Version_from_str (s : List Char) : Version.rs_from_str s = Version.parse s := by
  unfold Version.rs_from_str
  exact Version_parse s

end Semver.GenEquiv
