import SemverProofs.GenEquiv.VersionParse
import SemverProofs.GenEquiv.Tables
/-!
# The parsers extracted from `src/range.rs` are the model's parsers

Inside `simple` every failure is swallowed (its last alternative, `garbage`, always succeeds), so the
model's sub-parsers return `Option`; `toOpt` forgets the error of the extracted parser accordingly.
`simple`, `range`, `bound_sets` never fail and are compared exactly; `range_set` is compared with
`Range.parse` including the error it reports.
-/
namespace Semver.GenEquiv
open Semver Rust Winnow

def toOpt {α : Type} : PRes α → Option (α × List Char)
  | .ok a r => some (a, r)
  | .err _ => none

@[simp] theorem toOpt_ok {α : Type} (a : α) (r : List Char) : toOpt (PRes.ok a r) = some (a, r) := rfl
@[simp] theorem toOpt_err {α : Type} (e : PErr) : toOpt (PRes.err e : PRes α) = none := rfl

/-! ### `toOpt` is a morphism from the parser monad to the option monad of the model's range parsers -/

theorem toOpt_pure {α : Type} (a : α) (s : List Char) : toOpt ((pure a : Parser α) s) = some (a, s) := rfl

theorem toOpt_bind {α β : Type} (p : Parser α) (f : α → Parser β) (s : List Char) :
    toOpt ((p >>= f) s) = (toOpt (p s)).bind (fun x => toOpt (f x.1 x.2)) := by
  rw [bind_def]; cases p s <;> rfl

theorem toOpt_map {α β : Type} (p : Parser α) (f : α → β) (s : List Char) :
    toOpt (Winnow.map p f s) = (toOpt (p s)).map (fun x => (f x.1, x.2)) := by
  unfold Winnow.map; cases p s <;> rfl

theorem toOpt_context {α : Type} (c : String) (p : Parser α) (s : List Char) :
    toOpt (Winnow.context c p s) = toOpt (p s) := by
  unfold Winnow.context; cases p s <;> rfl

theorem opt_toOpt {α : Type} (p : Parser α) (s : List Char) :
    Winnow.opt p s = match toOpt (p s) with
      | some x => .ok (some x.1) x.2
      | none => .ok none s := by
  unfold Winnow.opt; cases p s <;> rfl

theorem toOpt_altFrom {α : Type} (s : List Char) (ps : List (Parser α)) (e : PErr) :
    toOpt (Winnow.altFrom s ps e) = ps.findSome? (fun p => toOpt (p s)) := by
  induction ps generalizing e with
  | nil => rfl
  | cons p ps ih => rw [Winnow.altFrom, List.findSome?_cons]; cases p s <;> simp [ih]

theorem toOpt_alt {α : Type} (ps : List (Parser α)) (s : List Char) :
    toOpt (Winnow.alt ps s) = ps.findSome? (fun p => toOpt (p s)) := toOpt_altFrom s ps _

theorem ok_of_toOpt {α : Type} (r : PRes α) (x : α × List Char) (h : toOpt r = some x) : r = .ok x.1 x.2 := by
  cases r with
  | ok a t => cases h; rfl
  | err e => cases h

theorem toOpt_lit (c : Char) (s : List Char) :
    toOpt (Winnow.literal [c] s) = match s with
      | d :: t => if d = c then some ([c], t) else none
      | [] => none := by
  cases s with
  | nil => simp [lit_nil]
  | cons d t =>
    by_cases h : d = c
    · subst h; simp [lit_eq]
    · simp [lit_ne _ _ _ h, h]

theorem x_or_asterisk_eq (s : List Char) :
    toOpt (Semver.Gen.x_or_asterisk s) = match s with
      | d :: t => if d = 'x' ∨ d = 'X' ∨ d = '*' then some ((), t) else none
      | [] => none := by
  unfold Semver.Gen.x_or_asterisk
  simp only [toOpt_map, toOpt_alt, List.findSome?_cons, List.findSome?_nil, toOpt_lit]
  cases s with
  | nil => rfl
  | cons d t =>
    -- in whatever order the three literals are tried
    by_cases h1 : d = 'x' <;> by_cases h2 : d = 'X' <;> by_cases h3 : d = '*' <;> simp [h1, h2, h3]

theorem component_eq (s : List Char) : toOpt (Semver.Gen.component s) = component s := by
  unfold Semver.Gen.component
  simp only [toOpt_alt, List.findSome?_cons, List.findSome?_nil, toOpt_map, x_or_asterisk_eq, number_eq]
  cases s with
  | nil => simp [component]; cases number [] <;> rfl
  | cons d t =>
    by_cases h : d = 'x' ∨ d = 'X' ∨ d = '*'
    · rcases h with rfl | rfl | rfl <;> simp [component]
    · have h' := h
      simp only [not_or] at h'
      simp [component, h']
      cases number (d :: t) <;> rfl

theorem opt_dot_component (s : List Char) :
    Winnow.opt (Winnow.preceded (Winnow.literal ['.']) Semver.Gen.component) s =
      .ok (dotComponent s).1 (dotComponent s).2 := by
  unfold dotComponent
  simp only [opt_toOpt, Winnow.preceded, toOpt_bind, toOpt_lit, component_eq]
  cases s with
  | nil => rfl
  | cons d t =>
    by_cases h : d = '.'
    · subst h; cases h2 : component t <;> simp [h2]
    · simp [h]

theorem opt_lit_v (s : List Char) : ∃ x, Winnow.opt (Winnow.literal ['v']) s = .ok x (stripV s) := by
  rw [opt_toOpt, toOpt_lit]
  cases s with
  | nil => exact ⟨none, rfl⟩
  | cons d t =>
    by_cases h : d = 'v'
    · subst h; exact ⟨some ['v'], rfl⟩
    · exact ⟨none, by simp [h, stripV]⟩

/-- `preceded((a, b), c)` is `a`, `b`, `c` in sequence (so that the combinator spelling of a prefix and the three
statements `a(input)?; b(input)?; c(input)?` are the same term for the proofs below) -/
theorem preceded_seq2 {α β γ : Type} (a : Parser α) (b : Parser β) (c : Parser γ) :
    Winnow.preceded (Winnow.seq2 a b) c = (a >>= fun _ => b >>= fun _ => c) := by
  funext s
  simp only [Winnow.preceded, Winnow.seq2, bind_def, pure_def]
  cases a s with
  | err e => rfl
  | ok x r => simp only; cases b r <;> rfl

theorem opt_and {α β : Type} (a : Option α) (b : Option β) : Rust.and a b = a.bind fun _ => b := by
  cases a <;> rfl

theorem partial_version_eq (s : List Char) : toOpt (Semver.Gen.partial_version s) = partialVersion s := by
  unfold Semver.Gen.partial_version partialVersion partialCore
  obtain ⟨x, hx⟩ := opt_lit_v s
  -- statement style and combinator style (`preceded((opt("v"), space0), component)`) unfold to the same binds
  simp only [preceded_seq2, toOpt_bind, toOpt_pure, hx, space0_eq, toOpt_ok, Option.bind_some, component_eq,
    opt_dot_component, opt_and, Rust.flatten, RFlatten.flatten, Rust.is_some]
  cases component (dropBlanks (stripV s)) with
  | none => rfl
  | some x =>
    obtain ⟨major, r1⟩ := x
    simp only [Option.bind_some]
    generalize dotComponent (dotComponent r1).2 = pa
    cases h : pa.1 <;> simp [extras_eq, pure_def]

theorem lit2 (a b : Char) (s : List Char) :
    Winnow.literal [a, b] s = match s with
      | c :: d :: t => if (a == c && b == d) then .ok [a, b] t else .err (errAt s)
      | _ => .err (errAt s) := by
  rcases s with _ | ⟨c, _ | ⟨d, t⟩⟩ <;> simp [Winnow.literal, Winnow.isPrefix]

theorem toOpt_lit2 (a b : Char) (s : List Char) :
    toOpt (Winnow.literal [a, b] s) = match s with
      | c :: d :: t => if c = a ∧ d = b then some ([a, b], t) else none
      | _ => none := by
  rw [lit2]
  rcases s with _ | ⟨c, _ | ⟨d, t⟩⟩
  · rfl
  · rfl
  · by_cases h : c = a ∧ d = b
    · obtain ⟨rfl, rfl⟩ := h; simp
    · have : (a == c && b == d) = false := by
        rw [Bool.eq_false_iff]; intro hh; simp at hh; exact h ⟨hh.1.symm, hh.2.symm⟩
      simp [h, this]

theorem operation_eq (s : List Char) : toOpt (Semver.Gen.operation s) = operation s := by
  unfold Semver.Gen.operation operation
  simp only [toOpt_alt, List.findSome?_cons, List.findSome?_nil, toOpt_map, toOpt_lit, toOpt_lit2]
  -- in whatever order the five literals are tried
  rcases s with _ | ⟨c, _ | ⟨d, t⟩⟩
  · rfl
  · by_cases h1 : c = '>'
    · subst h1; simp
    · by_cases h3 : c = '='
      · subst h3; simp
      · by_cases h4 : c = '<'
        · subst h4; simp
        · simp [h1, h3, h4]
  · by_cases h1 : c = '>'
    · subst h1; by_cases h2 : d = '=' <;> simp [h2]
    · by_cases h3 : c = '='
      · subst h3; simp
      · by_cases h4 : c = '<'
        · subst h4; by_cases h2 : d = '=' <;> simp [h2]
        · simp [h1, h3, h4]

theorem primitive_eq (s : List Char) : toOpt (Semver.Gen.primitive s) = primitive s := by
  unfold Semver.Gen.primitive primitive
  simp only [toOpt_context, toOpt_map, Winnow.seq2, Winnow.preceded, toOpt_bind, toOpt_pure, space0_eq, toOpt_ok,
    operation_eq, partial_version_eq]
  cases operation s with
  | none => rfl
  | some x => cases h : partialVersion (dropBlanks x.2) <;> simp [h, primitive_table]

theorem partial_eq (s : List Char) : toOpt (Semver.Gen.partial s) = partialP s := by
  unfold Semver.Gen.partial partialP
  simp only [toOpt_context, toOpt_map, partial_version_eq, partial_table]
  cases partialVersion s <;> rfl

theorem opt_lit_gt (s : List Char) :
    Winnow.opt (Winnow.literal ['>']) s = .ok (if (stripGt s).1 then some ['>'] else none) (stripGt s).2 := by
  rw [opt_toOpt, toOpt_lit]
  cases s with
  | nil => rfl
  | cons d t => by_cases h : d = '>' <;> simp [h, stripGt]

theorem tilde_gt_eq (s : List Char) :
    toOpt (Semver.Gen.tilde_gt s) = (tildeGt s).map (fun x => (if x.1 then some ['>'] else none, x.2)) := by
  unfold Semver.Gen.tilde_gt tildeGt
  simp only [toOpt_map, Winnow.seq4, toOpt_bind, toOpt_pure, Option.bind_some, space0_eq, opt_lit_gt,
    toOpt_ok, toOpt_lit]
  cases s with
  | nil => rfl
  | cons d t => by_cases h : d = '~' <;> simp [h]

theorem tilde_eq (s : List Char) : toOpt (Semver.Gen.tilde s) = tilde s := by
  unfold Semver.Gen.tilde tilde
  simp only [toOpt_context, toOpt_map, Winnow.seq2, toOpt_bind, toOpt_pure, tilde_gt_eq, partial_version_eq]
  cases tildeGt s with
  | none => rfl
  | some x => obtain ⟨g, r⟩ := x; cases h : partialVersion r <;> cases g <;> simp [h, tilde_table]

theorem caret_eq (s : List Char) : toOpt (Semver.Gen.caret s) = caret s := by
  unfold Semver.Gen.caret caret
  simp only [toOpt_context, toOpt_map, Winnow.seq2, Winnow.preceded, toOpt_bind, toOpt_pure, space0_eq, toOpt_ok,
    partial_version_eq]
  cases s with
  | nil => simp [lit_nil]
  | cons d t =>
    by_cases h : d = '^'
    · subst h; cases h2 : partialVersion (dropBlanks t) <;> simp [lit_eq, h2, caret_table]
    · simp [lit_ne _ _ _ h, h]

theorem opt_partial (s : List Char) :
    Winnow.opt Semver.Gen.partial_version s = .ok (optPartial s).1 (optPartial s).2 := by
  rw [opt_toOpt, partial_version_eq]
  unfold optPartial
  cases partialVersion s <;> rfl

theorem space1_eq (s : List Char) : toOpt (Winnow.space1 s) = (blanks1 s).map (fun r => ((span isBlank s).1, r)) := by
  unfold Winnow.space1 Winnow.takeWhile1 blanks1
  rw [isSpace_eq]
  cases s with
  | nil => simp [span]
  | cons c t => cases h : isBlank c <;> simp [span, h, dropBlanks]

theorem hyphen_upper (u : Partial) :
    (match u with
      | { major := none, .. } => Pred.unb
      | { major := some major, minor := none, patch := none, .. } =>
        Pred.exc ({ major := major + 1, minor := 0, patch := 0, pre := [Ident.num 0], build := [] } : Version)
      | { major := some major, minor := some minor, patch := none, .. } =>
        Pred.exc ({ major := major, minor := minor + 1, patch := 0, pre := [Ident.num 0], build := [] } : Version)
      | partial_ => Pred.inc (Rust.into partial_)) = hyphenUpper u := by
  obtain ⟨ma, mi, pa, pre, build⟩ := u
  cases ma <;> cases mi <;> cases pa <;> simp [hyphenUpper, Version.mk4, into_partial]

theorem hyphen_set (lower : Option Partial) (upper : Pred) :
    (match lower with
      | some lower => BoundSet.rs_new (Bound.lo (Pred.inc (Rust.into lower))) (Bound.up upper)
      | _ => if REq.eq upper Pred.unb = true then BoundSet.rs_at_least (Pred.inc (Rust.into ((0 : Nat), (0 : Nat), (0 : Nat))))
        else BoundSet.rs_at_most upper) = hyphenSet lower upper := by
  cases lower with
  | some l => simp [hyphenSet, BoundSet_new, into_partial]
  | none =>
    cases upper <;>
      simp [hyphenSet, REq.eq, Pred.rs_eq, BoundSet_at_least, BoundSet_at_most, into3]

theorem toOpt_lit_dash (s : List Char) : toOpt (Winnow.literal ['-'] s) = (dash s).map (fun r => (['-'], r)) := by
  rw [toOpt_lit]
  cases s with
  | nil => rfl
  | cons d t => by_cases h : d = '-' <;> simp [h, dash]

/-- stated with the continuation `k`, so that it rewrites inside the chain of binds of `hyphen_parser` -/
theorem hyphen_rest {β : Type} (k : Partial × List Char → Option β) (s : List Char) :
    ((toOpt (Winnow.space1 s)).bind fun x => (toOpt (Winnow.literal ['-'] x.2)).bind fun x =>
      (toOpt (Winnow.space1 x.2)).bind fun x => (toOpt (Semver.Gen.partial_version x.2)).bind k) = (hyphenRest s).bind k := by
  unfold hyphenRest
  simp only [space1_eq, toOpt_lit_dash, partial_version_eq]
  cases blanks1 s with
  | none => rfl
  | some r1 =>
    cases h2 : dash r1 with
    | none => simp [h2]
    | some r2 => cases h3 : blanks1 r2 <;> simp [h2, h3]

/-- not through `hyphen_upper`/`hyphen_set`: a statement containing a `match` has its own matcher and does not rewrite
generated text -/
theorem hyphen_parser_eq (s : List Char) : toOpt (Semver.Gen.hyphen_parser s) = hyphen s := by
  unfold Semver.Gen.hyphen_parser hyphen
  -- `separated_pair(opt(partial_version), (space1, "-", space1), partial_version)` and the five statements: the same binds
  simp only [Winnow.separatedPair, Winnow.seq3, Winnow.seq2, Winnow.preceded, Winnow.terminated]
  simp only [toOpt_bind, toOpt_pure, Option.bind_assoc, Option.bind_some, opt_partial, toOpt_ok, hyphen_rest,
    BoundSet_new, BoundSet_at_least, BoundSet_at_most, REq.eq, Pred.rs_eq, Rust.filter, RFilter.filter, Rust.is_some]
  cases hyphenRest (optPartial s).2 with
  | none => rfl
  | some x =>
    obtain ⟨⟨ma, mi, pa, pre, build⟩, r4⟩ := x
    generalize Option.filter _ (optPartial s).1 = lower
    cases lower <;> cases ma <;> cases mi <;> cases pa <;> rfl

theorem hyphen_eq (s : List Char) : toOpt (Semver.Gen.hyphen s) = hyphen s := by
  unfold Semver.Gen.hyphen
  rw [toOpt_context, hyphen_parser_eq]

theorem toOpt_peek {α : Type} (p : Parser α) (s : List Char) :
    toOpt (Winnow.peek p s) = (toOpt (p s)).map (fun x => (x.1, s)) := by
  unfold Winnow.peek; cases p s <;> rfl

theorem end_parts (s : List Char) :
    ((toOpt (Winnow.space1 s)).isSome || (toOpt (Winnow.literal ['|', '|'] s)).isSome || (toOpt (Winnow.eof s)).isSome) =
      atEnd s := by
  simp only [space1_eq, toOpt_lit2]
  rcases s with _ | ⟨c, _ | ⟨d, t⟩⟩
  · simp [blanks1, Winnow.eof, atEnd]
  · cases hb : isBlank c <;> simp [blanks1, Winnow.eof, atEnd, hb]
  · by_cases h1 : c = '|'
    · subst h1
      have hb : isBlank '|' = false := by decide
      by_cases h2 : d = '|'
      · subst h2; simp [blanks1, atEnd, hb]
      · simp [blanks1, Winnow.eof, atEnd, hb, h2]
    · cases hb : isBlank c <;> simp [blanks1, Winnow.eof, atEnd, hb, h1]

/-- what the loop of `garbage` needs of its end test: it succeeds, without consuming, exactly when `atEnd` holds -/
def EndTest {α : Type} (g : Parser α) : Prop :=
  ∀ s, (atEnd s = true ∧ ∃ x, g s = .ok x s) ∨ (atEnd s = false ∧ ∃ e, g s = .err e)

theorem endTest_of_toOpt {α : Type} (g : Parser α)
    (h : ∀ s, (toOpt (g s)).map (·.2) = if atEnd s then some s else none) : EndTest g := by
  intro s
  have hs := h s
  cases hg : g s with
  | ok x r =>
    rw [hg] at hs
    cases ha : atEnd s <;> simp [ha] at hs
    subst hs
    exact Or.inl ⟨rfl, x, rfl⟩
  | err e =>
    rw [hg] at hs
    cases ha : atEnd s <;> simp [ha] at hs
    exact Or.inr ⟨rfl, e, rfl⟩

theorem garbage_end :
    EndTest (Winnow.alt [Winnow.peek Winnow.space1, Winnow.peek (Winnow.literal ['|', '|']), Winnow.eof]) :=
  endTest_of_toOpt _ fun s => by
    simp only [toOpt_alt, List.findSome?_cons, List.findSome?_nil, toOpt_peek, ← end_parts]
    cases toOpt (Winnow.space1 s) <;> cases toOpt (Winnow.literal ['|', '|'] s) <;> cases s <;> rfl

theorem peek_end (s : List Char) :
    (atEnd s = true ∧ ∃ x, Winnow.peek (Winnow.alt [Winnow.space1, Winnow.literal ['|', '|'], Winnow.eof]) s = .ok x s) ∨
    (atEnd s = false ∧ ∃ e, Winnow.peek (Winnow.alt [Winnow.space1, Winnow.literal ['|', '|'], Winnow.eof]) s = .err e) :=
  endTest_of_toOpt _ (fun s => by
    simp only [toOpt_peek, toOpt_alt, List.findSome?_cons, List.findSome?_nil, ← end_parts]
    cases toOpt (Winnow.space1 s) <;> cases toOpt (Winnow.literal ['|', '|'] s) <;> cases toOpt (Winnow.eof s) <;> rfl) s

/-- `peek(alt((space1, literal("||"), eof)))` fails where `atEnd` is false (`peek_end` says the rest) -/
theorem end_peek (s : List Char) :
    toOpt (Winnow.peek (Winnow.alt [Winnow.space1, Winnow.literal ['|', '|'], Winnow.eof]) s) =
      if atEnd s then (toOpt (Winnow.peek (Winnow.alt [Winnow.space1, Winnow.literal ['|', '|'], Winnow.eof]) s)) else none := by
  rcases peek_end s with ⟨ha, _⟩ | ⟨ha, e, he⟩
  · simp [ha]
  · simp [ha, he]

theorem toOpt_terminated (p : Parser (Option BoundSet)) (s : List Char) :
    toOpt (Winnow.terminated p (Winnow.peek (Winnow.alt [Winnow.space1, Winnow.literal ['|', '|'], Winnow.eof])) s) =
      Semver.terminated (toOpt (p s)) := by
  unfold Winnow.terminated Semver.terminated
  simp only [toOpt_bind, toOpt_pure]
  cases toOpt (p s) with
  | none => rfl
  | some x =>
    rcases peek_end x.2 with ⟨ha, y, hy⟩ | ⟨ha, e, he⟩
    · simp [ha, hy]
    · simp [ha, he]

theorem garbage_loop {α : Type} (g : Parser α) (hend : EndTest g) (n : Nat) (s : List Char) (h : s.length < n) :
    ∃ x, Winnow.repeatTill0 Winnow.any g n s = .ok ((), x) (garbage s) := by
  induction n generalizing s with
  | zero => omega
  | succ n ih =>
    rw [Winnow.repeatTill0]
    rcases hend s with ⟨ha, x, hx⟩ | ⟨hne, e, he⟩
    · have hg : garbage s = s := by
        cases s with
        | nil => rfl
        | cons c cs => simp [garbage, ha]
      exact ⟨x, by simp only [hx, hg]⟩
    · simp only [he]
      cases s with
      | nil => simp [atEnd] at hne
      | cons c cs =>
        simp only [Winnow.any]
        have hlen : (cs.length == (c :: cs).length) = false := by simp
        simp only [hlen, Bool.false_eq_true, ↓reduceIte]
        have : garbage (c :: cs) = garbage cs := by simp [garbage, hne]
        rw [this]
        exact ih cs (by simp at h; omega)

theorem garbage_gen {α : Type} (g : Parser α) (hend : EndTest g) (s : List Char) :
    Winnow.map (fun s => Winnow.repeatTill0 Winnow.any g (s.length + 1) s) (fun _ => (none : Option BoundSet)) s
      = .ok none (garbage s) := by
  obtain ⟨x, hx⟩ := garbage_loop g hend (s.length + 1) s (by omega)
  simp only [Winnow.map, hx]

theorem garbage_eq (s : List Char) : Semver.Gen.garbage s = .ok none (garbage s) := by
  unfold Semver.Gen.garbage
  first
  | exact garbage_gen _ garbage_end s
  | exact garbage_gen _ peek_end s

theorem simple_eq (s : List Char) : Semver.Gen.simple s = .ok (simple s).1 (simple s).2 := by
  apply ok_of_toOpt
  unfold Semver.Gen.simple simple
  simp only [toOpt_alt, List.findSome?_cons, toOpt_terminated, hyphen_eq, primitive_eq, partial_eq, tilde_eq, caret_eq,
    garbage_eq, toOpt_ok]
  cases Semver.terminated (hyphen s) with
  | some _ => rfl
  | none =>
  cases Semver.terminated (primitive s) with
  | some _ => rfl
  | none =>
  cases Semver.terminated (partialP s) with
  | some _ => rfl
  | none =>
  cases Semver.terminated (tilde s) with
  | some _ => rfl
  | none => cases Semver.terminated (caret s) <;> rfl

/-- the loop of `separated(0.., p, sep)` for an element parser that never fails and a separator that consumes: any `tail`
that unfolds like the loop is what the loop computes -/
theorem separated_loop {α β : Type} (p : Parser α) (sep : Parser β) (f : List Char → α × List Char)
    (g : List Char → Option (List Char)) (tail : List Char → List α × List Char)
    (hp : ∀ s, p s = .ok (f s).1 (f s).2) (hf : ∀ s, (f s).2.length ≤ s.length)
    (hsep : ∀ s, (toOpt (sep s)).map (·.2) = g s) (hg : ∀ s r, g s = some r → r.length < s.length)
    (hnone : ∀ s, g s = none → tail s = ([], s))
    (hsome : ∀ s r, g s = some r → tail s = ((f r).1 :: (tail (f r).2).1, (tail (f r).2).2))
    (n : Nat) (s : List Char) (h : s.length < n) :
    Winnow.separatedLoop p sep n s = .ok (tail s).1 (tail s).2 := by
  induction n generalizing s with
  | zero => omega
  | succ n ih =>
    rw [Winnow.separatedLoop]
    have hs := hsep s
    cases hx : sep s with
    | err e => rw [hx] at hs; simp only [hnone s hs.symm]
    | ok x r =>
      rw [hx] at hs
      have hl := hg s r hs.symm
      have hne : (r.length == s.length) = false := by simp; omega
      have := hf r
      simp only [hne, Bool.false_eq_true, ↓reduceIte, hp, ih (f r).2 (by omega), hsome s r hs.symm]

theorem range_loop (n : Nat) (s : List Char) (h : s.length < n) :
    Winnow.separatedLoop Semver.Gen.simple Winnow.space1 n s = .ok (rangeTail s).1 (rangeTail s).2 :=
  separated_loop _ _ simple blanks1 rangeTail simple_eq simple_length
    (fun s => by rw [space1_eq]; cases blanks1 s <;> rfl) (fun _ _ => blanks1_length)
    (fun _ => rangeTail_none) (fun _ _ => rangeTail_some) n s h

theorem range_eq (s : List Char) : Semver.Gen.range s = .ok (rangeP s).1 (rangeP s).2 := by
  unfold Semver.Gen.range rangeP
  simp only [Winnow.map, Winnow.separated0, simple_eq]
  rw [range_loop _ _ (by omega)]
  simp [range_fold]

theorem logical_or_eq (s : List Char) : toOpt (Semver.Gen.logical_or s) = (logicalOr s).map (fun r => ((), r)) := by
  unfold Semver.Gen.logical_or logicalOr
  simp only [toOpt_map, Winnow.delimited, toOpt_bind, toOpt_pure, Option.bind_some, space0_eq, toOpt_ok,
    toOpt_lit2]
  rcases hd : dropBlanks s with _ | ⟨c, _ | ⟨d, t⟩⟩
  · simp
  · simp
  · by_cases h1 : c = '|'
    · subst h1
      by_cases h2 : d = '|'
      · subst h2; simp
      · simp [h2]
    · simp [h1]

theorem bound_sets_loop (n : Nat) (s : List Char) (h : s.length < n) :
    Winnow.separatedLoop Semver.Gen.range Semver.Gen.logical_or n s = .ok (boundSetsTail s).1 (boundSetsTail s).2 :=
  separated_loop _ _ rangeP logicalOr boundSetsTail range_eq rangeP_length
    (fun s => by rw [logical_or_eq]; cases logicalOr s <;> rfl) (fun _ _ => logicalOr_length)
    (fun _ => boundSetsTail_none) (fun _ _ => boundSetsTail_some) n s h

theorem bound_sets_eq (s : List Char) : Semver.Gen.bound_sets s = .ok (boundSets s).1 (boundSets s).2 := by
  unfold Semver.Gen.bound_sets boundSets
  simp only [Winnow.map, Winnow.separated0, range_eq]
  rw [bound_sets_loop _ _ (by omega)]
  simp [bound_sets_flatten]

/-- `NoValidRanges` is reported at the start of the input -/
theorem range_set_eq (s : List Char) :
    Semver.Gen.range_set s =
      if (boundSets (dropBlanks s)).1.isEmpty then .err ⟨s, none, some .noValidRanges⟩
      else .ok (boundSets (dropBlanks s)).1 (boundSets (dropBlanks s)).2 := by
  unfold Semver.Gen.range_set Semver.Gen.range_set_check
  simp only [Winnow.tryMap, Winnow.preceded, bind_def, space0_eq, bound_sets_eq, Rust.is_empty]
  by_cases h : (boundSets (dropBlanks s)).1.isEmpty = true
  · simp only [h, ↓reduceIte]
  · simp only [h, Bool.false_eq_true, ↓reduceIte]

/-- the wrapper's error handling: the offset is the distance of the error's input from the start, the kind is the explicit
kind, else the context, else `Other` -/
theorem Range_parse_eq (s : List Char) :
    Range.parse s = match Semver.Gen.range_set s with
      | .ok r _ => .ok r
      | .err e => .error ⟨s, utf8Len s - utf8Len e.rest, e.finalKind⟩ := by
  rw [range_set_eq]
  unfold Range.parse
  by_cases h : (boundSets (dropBlanks s)).1.isEmpty = true
  · simp [h, PErr.finalKind]
  · simp only [h, Bool.false_eq_true, ↓reduceIte]

theorem Range_parse (s : List Char) : Range.rs_parse s = Range.parse s := by
  unfold Range.rs_parse
  rw [Range_parse_eq]
  simp only [Winnow.run, Rust.into, RInto.into, Rust.span_offset, id]
  cases hg : Semver.Gen.range_set s with
  | ok r rest => first | rfl | simp [Rust.map_err, bind, Except.bind, pure, Except.pure]
  | err e =>
    have hr : e.rest = s := by
      rw [range_set_eq] at hg
      split at hg <;> cases hg; rfl
    -- the `Result`/`Option` adapters: as in `Version_parse`
    simp only [bind, Except.bind, pure, Except.pure, throw, throwThe, MonadExceptOf.throw, Rust.ptr_diff, RPtrDiff.ptr_diff, PErr.input,
      PErr.finalKind, PErr.context, hr, Rust.map_err, Rust.unwrap_or, Rust.or_else, Rust.opt_or, Rust.map, RMap.map, Rust.map_or,
      Rust.map_or_else, Rust.and_then]
    congr 2
    cases e.kind <;> cases e.ctx <;> rfl

theorem Range_from_str (s : List Char) : Range.rs_from_str s = Range.parse s := by
  unfold Range.rs_from_str
  exact Range_parse s

/-- the serde impls are `collect_str(self)` / parse of an owned `String` -/
theorem serde_canonical : True :=
  have _ := Semver.Gen.canonical_Version_serialize
  have _ := Semver.Gen.canonical_Version_deserialize
  have _ := Semver.Gen.canonical_Range_serialize
  have _ := Semver.Gen.canonical_Range_deserialize
  trivial

end Semver.GenEquiv
