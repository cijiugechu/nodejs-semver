import SemverGen.RustPrelude
/-!
# `for` loops of `Id.run do` blocks as folds

The translator renders a Rust `for` loop as Lean's `for … in … do`; these lemmas turn the resulting
`forIn` into `List.foldl` (no early exit) or into a search (early `return`).
-/
namespace Semver.GenEquiv

@[simp] theorem id_pure {α : Type} (x : α) : (pure x : Id α) = x := rfl
@[simp] theorem id_bind {α β : Type} (x : Id α) (f : α → Id β) : (x >>= f) = f x := rfl
@[simp] theorem id_run {α : Type} (x : Id α) : x.run = x := rfl
/-- lemmas about `ite` in `α` do not see one in `Id α` -/
theorem id_ite {α : Type} (c : Prop) [Decidable c] (t e : Id α) : @ite (Id α) c _ t e = @ite α c _ t e := rfl

theorem forIn_fold {α σ : Type} (l : List α) (init : σ) (body : α → σ → Id (ForInStep σ)) (g : α → σ → σ)
    (h : ∀ x s, body x s = ForInStep.yield (g x s)) :
    (forIn l init body : Id σ) = l.foldl (fun s x => g x s) init := by
  induction l generalizing init with
  | nil => rfl
  | cons a as ih => rw [List.forIn_cons, h]; exact ih _

theorem forIn_find {α ρ : Type} (l : List α) (body : α → Option ρ × Unit → Id (ForInStep (Option ρ × Unit)))
    (p : α → Bool) (r : α → ρ)
    (h : ∀ x s, body x s = if p x then ForInStep.done (some (r x), ()) else ForInStep.yield (none, ())) :
    (forIn l (none, ()) body : Id (Option ρ × Unit)) = ((l.find? p).map r, ()) := by
  induction l with
  | nil => rfl
  | cons a as ih =>
    rw [List.forIn_cons, h]
    by_cases hp : p a
    · simp [hp]
    · simp only [hp, Bool.false_eq_true, ↓reduceIte, List.find?_cons_of_neg, not_false_eq_true]; exact ih

theorem forIn_findSome {α ρ : Type} (l : List α) (body : α → Option ρ × Unit → Id (ForInStep (Option ρ × Unit)))
    (q : α → Option ρ)
    (h : ∀ x s, body x s = match q x with
      | some r => ForInStep.done (some r, ())
      | none => ForInStep.yield (none, ())) :
    (forIn l (none, ()) body : Id (Option ρ × Unit)) = (l.findSome? q, ()) := by
  induction l with
  | nil => rfl
  | cons a as ih =>
    rw [List.forIn_cons, h]
    cases hq : q a with
    | some r => simp [hq]
    | none => simp only [List.findSome?_cons, hq]; exact ih

/-- what an early `return true` from a loop computes -/
theorem findSome_true {α : Type} (l : List α) (p : α → Bool) :
    l.findSome? (fun x => if p x then some true else none) = if l.any p then some true else none := by
  induction l with
  | nil => rfl
  | cons a as ih => by_cases hp : p a <;> simp [hp, ih]

theorem findSome_any {α : Type} (l : List α) (p : α → Bool) :
    (match l.findSome? (fun x => if p x then some true else none) with
      | some r => r
      | none => false) = l.any p := by
  rw [findSome_true]
  cases l.any p <;> rfl

theorem foldl_bind_none {α β : Type} (f : α → β → Option α) (l : List β) :
    l.foldl (fun acc b => acc.bind (f · b)) none = none := by
  induction l with
  | nil => rfl
  | cons _ _ ih => simpa using ih

end Semver.GenEquiv
