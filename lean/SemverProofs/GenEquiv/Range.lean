import SemverProofs.GenEquiv.Bound
/-!
# The definitions extracted from `src/range.rs` are the model's definitions (ranges)

Each operation is proved for the loops the crate writes and, as a second alternative, for iterator adapters.
-/
namespace Semver.GenEquiv
open Semver Rust Pred Bound

theorem Range_any : Range.anyRange = some Range.rs_any := by
  simp only [Range.anyRange, Range.rs_any, BoundSet_new, Bound_lower, Bound_upper]
  rfl

theorem loop_any {α : Type} (l : List α) (p : α → Bool)
    (body : α → Option Bool × Unit → Id (ForInStep (Option Bool × Unit)))
    (h : ∀ x s, body x s =
      if p x = true then (pure (ForInStep.done (some true, ())) : Id _) else pure (ForInStep.yield (none, ()))) :
    (forIn l (none, ()) body : Id (Option Bool × Unit)) = (if l.any p then some true else none, ()) := by
  rw [forIn_findSome (q := fun x => if p x then some true else none), findSome_true]
  intro x s; rw [h]; cases p x <;> rfl

theorem Range_satisfies (r : Range) (v : Version) : Range.rs_satisfies r v = Range.satisfies r v := by
  first
  | -- written as a loop with an early return
    (unfold Range.satisfies Range.rs_satisfies
     rw [loop_any r (fun x => x.rs_satisfies v) _ (by intros; rfl)]
     simp only [id_run, id_bind, id_pure, BoundSet_satisfies]
     cases List.any r (fun x => x.satisfies v) <;> rfl)
  | -- written with `Iterator::any`
    (have hp : (fun x => BoundSet.rs_satisfies x v) = (fun x => x.satisfies v) := by
       funext x; exact BoundSet_satisfies x v
     simp [Range.rs_satisfies, Range.satisfies, Rust.iter_any, hp])

/-- `k` is what the outer body does with the inner loop's result, given by its two cases so that the statement does not
depend on how `match` was compiled -/
theorem nested_any (a b : Range) (p : BoundSet → BoundSet → Bool)
    (body : BoundSet → Option Bool × Unit → Id (ForInStep (Option Bool × Unit)))
    (inner : BoundSet → BoundSet → Option Bool × Unit → Id (ForInStep (Option Bool × Unit)))
    (k : Option Bool × Unit → Id (ForInStep (Option Bool × Unit)))
    (h : ∀ x s, body x s = (forIn b (none, ()) (inner x) >>= k))
    (hin : ∀ x y s, inner x y s =
      if p x y = true then (pure (ForInStep.done (some true, ())) : Id _) else pure (ForInStep.yield (none, ())))
    (hks : ∀ v u, k (some v, u) = ForInStep.done (some v, ()))
    (hkn : ∀ u, k (none, u) = ForInStep.yield (none, ())) :
    (forIn a (none, ()) body : Id (Option Bool × Unit)) =
      (if List.any a (fun x => List.any b (fun y => p x y)) then some true else none, ()) := by
  have hb : ∀ x s, body x s =
      if (List.any b (fun y => p x y)) = true then (pure (ForInStep.done (some true, ())) : Id _)
      else pure (ForInStep.yield (none, ())) := by
    intro x s
    rw [h, loop_any b (fun y => p x y) _ (hin x)]
    simp only [id_bind]
    cases List.any b (fun y => p x y)
    · exact hkn ()
    · exact hks true ()
  exact loop_any a (fun x => List.any b (fun y => p x y)) body hb

theorem Range_allows_all (a b : Range) : Range.rs_allows_all a b = Range.allowsAll a b := by
  first
  | (unfold Range.allowsAll Range.rs_allows_all
     rw [nested_any a b (fun x y => x.rs_allows_all y) _ _ _ (by intros; rfl) (by intros; rfl) (by intros; rfl)
       (by intros; rfl)]
     simp only [id_run, id_bind, id_pure, BoundSet_allows_all]
     cases List.any a (fun x => List.any b (fun y => x.allowsAll y)) <;> rfl)
  | (have hp : (fun x y => BoundSet.rs_allows_all x y) = (fun x y => x.allowsAll y) := by
       funext x y; exact BoundSet_allows_all x y
     simp [Range.rs_allows_all, Range.allowsAll, Rust.iter_any, hp])

theorem Range_allows_any (a b : Range) : Range.rs_allows_any a b = Range.allowsAny a b := by
  first
  | (unfold Range.allowsAny Range.rs_allows_any
     rw [nested_any a b (fun x y => x.rs_allows_any y) _ _ _ (by intros; rfl) (by intros; rfl) (by intros; rfl)
       (by intros; rfl)]
     simp only [id_run, id_bind, id_pure, BoundSet_allows_any]
     cases List.any a (fun x => List.any b (fun y => x.allowsAny y)) <;> rfl)
  | (have hp : (fun x y => BoundSet.rs_allows_any x y) = (fun x y => x.allowsAny y) := by
       funext x y; exact BoundSet_allows_any x y
     simp [Range.rs_allows_any, Range.allowsAny, Rust.iter_any, hp])

theorem inner_intersect (x : BoundSet) (b : Range) (init : List BoundSet) :
    b.foldl (fun s y => match x.intersect y with
      | some set_ => s ++ [set_]
      | none => s) init = init ++ b.filterMap (fun y => x.intersect y) := by
  induction b generalizing init with
  | nil => simp
  | cons y ys ih =>
    simp only [List.foldl_cons, List.filterMap_cons]
    cases x.intersect y <;> simp [ih]

theorem outer_intersect (a b : Range) (init : List BoundSet) :
    a.foldl (fun s x => s ++ b.filterMap (fun y => x.intersect y)) init = init ++ Range.intersectSets a b := by
  induction a generalizing init with
  | nil => simp [Range.intersectSets]
  | cons x xs ih => simp [List.foldl_cons, ih, Range.intersectSets, List.flatMap_cons]

theorem Range_intersect (a b : Range) : Range.rs_intersect a b = Range.intersect a b := by
  unfold Range.rs_intersect Range.intersect
  first
  | -- two nested `for` loops pushing onto a vector (the result as an `if` or as `(!sets.is_empty()).then(..)`)
    (simp only [id_run, id_bind, id_pure]
     rw [forIn_fold (g := fun x s => s ++ b.filterMap (fun y => x.intersect y))]
     · rw [outer_intersect]; simp [Rust.is_empty]
     · intro x s
       rw [forIn_fold (g := fun y s => match x.intersect y with
         | some set_ => s ++ [set_]
         | none => s)]
       · rw [inner_intersect]
       · intro y s; rw [BoundSet_intersect]; cases x.intersect y <;> rfl)
  | -- an iterator chain (`flat_map` / `filter_map` / `flatten`)
    (have hi : ∀ x y : BoundSet, x.rs_intersect y = x.intersect y := BoundSet_intersect
     simp [Range.intersectSets, Rust.flat_map, Rust.filter_map, Rust.collect, RCollect.collect, RIntoList.toList,
       Rust.is_empty, Rust.flatten, RFlatten.flatten, Rust.map, RMap.map, hi, Id.run]
     try (cases (List.flatMap (fun x => List.filterMap (fun y => x.intersect y) b) a) <;> simp)
     done)
  | -- an iterator chain ending in `(!sets.is_empty()).then(..)`
    (have hi : ∀ x y : BoundSet, x.rs_intersect y = x.intersect y := BoundSet_intersect
     simp only [Range.intersectSets, Rust.flat_map, Rust.filter_map, Rust.collect, RCollect.collect, RIntoList.toList,
       Rust.flatten, RFlatten.flatten, Rust.map, RMap.map, hi, Id.run, id]
     simp only [Rust.bool_then, Rust.is_empty]
     by_cases hE : (List.flatMap (fun x => List.filterMap (fun y => x.intersect y) b) a).isEmpty = true
     · simp only [hE, Bool.not_true, Bool.false_eq_true, ↓reduceIte]
     · have hE' : (List.flatMap (fun x => List.filterMap (fun y => x.intersect y) b) a).isEmpty = false := by
         simpa using hE
       simp only [hE', Bool.not_false, Bool.false_eq_true, ↓reduceIte])

/-- where the model's panic-aware `foldr` returns `x`, the generated `filter_map`/`flatten` pipeline returns `x`
(`diffAlt_rs`, `diffPieces_rs`: one and two loops further out) -/
theorem diffStep_rs (rem : List BoundSet) (r : BoundSet) (x : List BoundSet) (h : diffStep rem r = some x) :
    (Rust.collect (Rust.flatten (Rust.filter_map rem (fun piece => piece.rs_difference r))) : List BoundSet) = x := by
  simp only [Rust.collect, RCollect.collect, Rust.flatten, RFlatten.flatten, Rust.filter_map, id]
  induction rem generalizing x with
  | nil => simp [diffStep] at h; simp [h]
  | cons p ps ih =>
    simp only [diffStep, List.foldr_cons] at h
    change diffStepF r p (diffStep ps r) = some x at h
    cases hps : diffStep ps r with
    | none => simp [diffStepF, hps] at h
    | some rest =>
      have := ih rest hps
      rw [hps] at h
      cases hd : p.difference r with
      | panic => simp [diffStepF, hd] at h
      | none =>
        simp only [diffStepF, hd, Option.some.injEq] at h
        have e : p.rs_difference r = none := by rw [BoundSet_difference p r (by simp [hd]), hd]; rfl
        simp [e, this, h]
      | some l =>
        simp only [diffStepF, hd, Option.some.injEq] at h
        have e : p.rs_difference r = some l := by rw [BoundSet_difference p r (by simp [hd]), hd]; rfl
        simp [e, this, ← h]

theorem diffAlt_rs (other : Range) (init x : List BoundSet)
    (h : other.foldl (fun rem righty => rem.bind (diffStep · righty)) (some init) = some x) :
    other.foldl (fun (s : List BoundSet) r =>
      (Rust.collect (Rust.flatten (Rust.filter_map s (fun piece => piece.rs_difference r))) : List BoundSet)) init = x := by
  induction other generalizing init with
  | nil => simpa using h
  | cons r rs ih =>
    simp only [List.foldl_cons, Option.bind_some] at h ⊢
    cases hs : diffStep init r with
    | none =>
      rw [hs, foldl_bind_none] at h; cases h
    | some y =>
      rw [hs] at h
      rw [diffStep_rs init r y hs]
      exact ih y h

theorem diffPieces_rs (a b : Range) (init p : List BoundSet) (h : diffPieces a b = some p)
    (g : BoundSet → List BoundSet) (hg : ∀ lefty x, diffAlt lefty b = some x → g lefty = x) :
    a.foldl (fun s lefty => s ++ g lefty) init = init ++ p := by
  induction a generalizing init p with
  | nil => simp [diffPieces] at h; simp [h]
  | cons l ls ih =>
    simp only [diffPieces, List.foldr_cons] at h
    change diffPiecesF b l (diffPieces ls b) = some p at h
    cases hl : diffAlt l b with
    | none => simp [diffPiecesF, hl] at h
    | some x =>
      cases hr : diffPieces ls b with
      | none => simp [diffPiecesF, hl, hr] at h
      | some rest =>
        simp only [diffPiecesF, hl, hr, Option.some.injEq] at h
        simp only [List.foldl_cons]
        rw [ih _ rest hr, hg l x hl, ← h]
        simp

/-- the model's outer `none` is a panic; that there is none on well-formed ranges is C06/C08 -/
theorem Range_difference (a b : Range) (r : Option Range) (h : Range.difference a b = some r) :
    Range.rs_difference a b = r := by
  unfold Range.difference at h
  cases hp : diffPieces a b with
  | none => simp [hp] at h
  | some p =>
    simp only [hp, Option.map_some, Option.some.injEq] at h
    unfold Range.rs_difference
    first
    | -- two nested `for` loops
      (simp only [id_run, id_bind, id_pure]
       rw [forIn_fold (g := fun lefty s => s ++ b.foldl (fun (s : List BoundSet) r =>
         (Rust.collect (Rust.flatten (Rust.filter_map s (fun piece => piece.rs_difference r))) : List BoundSet)) [lefty])]
       · rw [diffPieces_rs a b [] p hp _ (fun lefty x hx => diffAlt_rs b [lefty] x hx)]
         simpa [Rust.is_empty] using h
       · intro lefty s
         rw [forIn_fold (g := fun r (s : List BoundSet) =>
           (Rust.collect (Rust.flatten (Rust.filter_map s (fun piece => piece.rs_difference r))) : List BoundSet))]
         intro r s; rfl)
    | -- `flat_map` over the alternatives of the receiver with a `fold` over those of the argument
      (have hf := diffPieces_rs a b [] p hp (fun lefty => b.foldl (fun (s : List BoundSet) r =>
         (Rust.collect (Rust.flatten (Rust.filter_map s (fun piece => piece.rs_difference r))) : List BoundSet)) [lefty])
         (fun lefty x hx => diffAlt_rs b [lefty] x hx)
       simp only [Rust.flat_map, Rust.fold, RIntoList.toList, id, List.flatMap_eq_foldl, Id.run, Rust.bool_then,
         Rust.is_empty] at hf ⊢
       simp only [Rust.collect, RCollect.collect, id] at hf ⊢
       simp only [hf]
       subst h; cases p <;> simp)

theorem sat_fun (r : Range) : (fun v => Range.rs_satisfies r v) = r.satisfies := by
  funext v; exact Range_satisfies r v

theorem v_cmp_fun : (ROrd.cmp : Version → Version → Ordering) = cmpVersion := by
  funext a b; exact v_cmp a b

theorem Range_max_satisfying (r : Range) (vs : List Version) : r.rs_max_satisfying vs = r.maxSatisfying vs := by
  simp [Range.rs_max_satisfying, Range.maxSatisfying, Rust.iter_max, Rust.filter, RFilter.filter, sat_fun, v_cmp_fun]

theorem Range_min_satisfying (r : Range) (vs : List Version) : r.rs_min_satisfying vs = r.minSatisfying vs := by
  simp [Range.rs_min_satisfying, Range.minSatisfying, Rust.iter_min, Rust.filter, RFilter.filter, sat_fun, v_cmp_fun]

theorem Range_min_version (r : Range) : r.rs_min_version = r.minVersion := by
  have : (fun s : BoundSet => s.rs_min_version) = BoundSet.minVersion := by funext s; exact BoundSet_min_version s
  simp [Range.rs_min_version, Range.minVersion, Rust.iter_min, Rust.filter_map, this, v_cmp_fun]

theorem Version_satisfies (v : Version) (r : Range) : v.rs_satisfies r = r.satisfies v := Range_satisfies r v

theorem bs_display (s : BoundSet) (r : List Char) (h : s.render = some r) : Rust.display s = r := BoundSet_fmt s r h

/-- the `enumerate` loop of `Display for Range` entered at index `n`: `||` comes first unless `n = 0` -/
theorem range_fmt_loop (n : Nat) (l : Range) (f r : List Char) (h : Range.render l = some r) :
    (enumerateFrom n l).foldl (fun s (x : Nat × BoundSet) =>
      (if Rust.gt x.1 0 = true then s ++ ['|', '|'] else s) ++ Rust.display x.2) f =
      f ++ (if n = 0 ∨ l.isEmpty then [] else ['|', '|']) ++ r := by
  induction l generalizing n f r with
  | nil => simp [Range.render] at h; simp [enumerateFrom, ← h]
  | cons s t ih =>
    have hgt : Rust.gt n 0 = decide (n ≠ 0) := by rw [n_gt]; simp [Nat.pos_iff_ne_zero]
    cases t with
    | nil =>
      simp only [Range.render] at h
      simp only [enumerateFrom, List.foldl_cons, List.foldl_nil, bs_display s r h, hgt]
      by_cases hn : n = 0 <;> simp [hn]
    | cons t1 t2 =>
      simp only [Range.render] at h
      cases hs : s.render with
      | none => simp [hs] at h
      | some a =>
        cases ht : Range.render (t1 :: t2) with
        | none => simp [hs, ht] at h
        | some b =>
          simp only [hs, ht, Option.some.injEq] at h
          simp only [enumerateFrom, List.foldl_cons] at ih ⊢
          rw [ih (n + 1) _ b ht]
          simp only [bs_display s a hs, hgt, ← h]
          by_cases hn : n = 0 <;> simp [hn]

theorem Range_fmt (l : Range) (r : List Char) (h : Range.render l = some r) : Range.rs_fmt l = r := by
  unfold Range.rs_fmt
  simp only [id_run, id_bind, id_pure]
  rw [forIn_fold (g := fun (x : Nat × BoundSet) s => (if Rust.gt x.1 0 = true then s ++ ['|', '|'] else s) ++ Rust.display x.2)]
  · rw [Rust.enumerate, range_fmt_loop 0 l [] r h]; simp
  · intro x s; obtain ⟨i, range⟩ := x; simp only; split <;> rfl

end Semver.GenEquiv
