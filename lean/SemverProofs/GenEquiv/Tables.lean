import SemverProofs.GenEquiv.Range
/-!
# The desugaring tables extracted from the range parser are the model's tables

The closures inside `primitive()`, `partial()`, `tilde()`, `caret()`, `range()` and `bound_sets()`
(`src/range.rs`) — the `match` expressions that turn an operator and a partial version into a bound set,
and the AND-fold — against `primitiveSet`, `partialSet`, `tildeSet`, `caretSet`, `foldSets` of the model.
-/
namespace Semver.GenEquiv
open Semver Rust Pred Bound

theorem Partial_into (p : Partial) : Version.rs_from_Partial p = p.toVersion := rfl
theorem into_partial (p : Partial) : (Rust.into p : Version) = p.toVersion := rfl
theorem into3 (a b c : Nat) : (Rust.into (a, b, c) : Version) = Version.mk3 a b c := rfl
theorem into4 (a b c d : Nat) : (Rust.into (a, b, c, d) : Version) = Version.mk4 a b c d := rfl

theorem primitive_table (op : Operation) (p : Partial) : Semver.Gen.primitive_table (op, p) = primitiveSet op p := by
  obtain ⟨ma, mi, pa, pre, build⟩ := p
  unfold Semver.Gen.primitive_table
  simp only [BoundSet_at_least, BoundSet_at_most, BoundSet_exact, BoundSet_new]
  cases ma with
  | none => cases op <;> rfl
  | some major => cases op <;> cases mi <;> cases pa <;> rfl

theorem partial_table (p : Partial) : Semver.Gen.partial_table p = partialSet p := by
  obtain ⟨ma, mi, pa, pre, build⟩ := p
  unfold Semver.Gen.partial_table
  simp only [BoundSet_at_least, BoundSet_exact, BoundSet_new]
  cases ma <;> cases mi <;> cases pa <;> rfl

theorem tilde_table (gt : Option (List Char)) (p : Partial) :
    Semver.Gen.tilde_table (gt, p) = tildeSet gt.isSome p := by
  obtain ⟨ma, mi, pa, pre, build⟩ := p
  unfold Semver.Gen.tilde_table
  simp only [BoundSet_at_least, BoundSet_new]
  cases gt <;> cases ma <;> cases mi <;> cases pa <;> rfl

theorem caret_table (p : Partial) : Semver.Gen.caret_table p = caretSet p := by
  obtain ⟨ma, mi, pa, pre, build⟩ := p
  unfold Semver.Gen.caret_table
  simp only [BoundSet_at_least, BoundSet_at_most, BoundSet_new]
  rcases ma with _ | (_ | ma) <;> rcases mi with _ | (_ | mi) <;> cases pa <;> rfl

theorem try_fold_eq (l : List BoundSet) (init : BoundSet) :
    Rust.try_fold_option l init (fun acc bs => acc.rs_intersect bs) =
      l.foldl (fun acc b => acc.bind (fun (x : BoundSet) => x.intersect b)) (some init) := by
  induction l generalizing init with
  | nil => rfl
  | cons x xs ih =>
    simp only [Rust.try_fold_option, List.foldl_cons, Option.bind_some]
    rw [BoundSet_intersect]
    cases h : init.intersect x with
    | some b => exact ih b
    | none => exact (foldl_bind_none BoundSet.intersect xs).symm

theorem range_fold (bs : List (Option BoundSet)) : Semver.Gen.range_fold bs = foldSets bs := by
  unfold Semver.Gen.range_fold foldSets
  simp only [id_run, id_pure, Rust.flatten, RFlatten.flatten, Rust.next]
  cases h : bs.filterMap id with
  | nil => first | rfl | simp [Rust.map_or_else, Rust.and_then, Rust.map_or, Rust.unwrap_or, Rust.map, RMap.map]
  | cons first rest =>
    -- the `Option` adapters are for a fold written as `next().and_then(try_fold).map_or_else(..)`
    simp only [try_fold_eq, Rust.collect, RCollect.collect, Rust.map_or_else, Rust.and_then, Rust.map_or, Rust.unwrap_or,
      Rust.map, RMap.map]
    cases rest.foldl (fun acc b => acc.bind (fun (x : BoundSet) => x.intersect b)) (some first) <;> rfl

theorem bound_sets_flatten (sets : List (List BoundSet)) : Semver.Gen.bound_sets_flatten sets = sets.flatten := rfl

end Semver.GenEquiv
