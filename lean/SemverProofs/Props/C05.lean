import SemverProofs.Lemmas.VersionParse
import SemverProofs.Lemmas.Canon
/-!
# C05 — Version::parse accepts only whole well-formed version strings, faithfully

`Spec.VersionLang s v` is the grammar of the property statement (optional `v`/`V`, surrounding
blanks, `major.minor.patch[-prerelease][+build]`, decimal components at most MAX_SAFE_INTEGER,
non-empty dot-separated identifiers over `[0-9A-Za-z-]`, at most MAX_LENGTH bytes; plus the loose
spellings the crate documents: leading zeros and a prerelease written without its hyphen, which
then starts with a letter).
-/
namespace Semver.C05
open Semver Spec

/-- C05, "only": whatever `Version::parse` accepts is a whole string of the language, and the returned
fields are exactly the denoted numbers and identifiers -/
theorem C05_sound (s : List Char) (v : Version) (h : Version.parse s = .ok v) : VersionLang s v := by
  unfold Version.parse at h
  by_cases hlen : MAX_LENGTH < utf8Len s
  · rw [if_pos hlen] at h; cases h
  · rw [if_neg hlen] at h
    cases hp : versionP s with
    | err e => rw [hp] at h; cases h
    | ok v' r =>
      rw [hp] at h
      cases h
      exact versionP_ok hp (by rw [utf8Length_eq]; exact Nat.not_lt.1 hlen)

/-- C05, "all": every string of the language is accepted, with exactly the denoted fields -/
theorem C05_complete (s : List Char) (v : Version) (h : VersionLang s v) : Version.parse s = .ok v := by
  have hlen : ¬ MAX_LENGTH < utf8Len s := Nat.not_lt.2 (utf8Length_eq s ▸ h.1)
  unfold Version.parse
  rw [if_neg hlen, versionP_complete h]

theorem C05_iff (s : List Char) (v : Version) : Version.parse s = .ok v ↔ VersionLang s v :=
  ⟨C05_sound s v, C05_complete s v⟩

theorem C05_components_bounded (s : List Char) (v : Version) (h : Version.parse s = .ok v) :
    v.major ≤ MAX_SAFE_INTEGER ∧ v.minor ≤ MAX_SAFE_INTEGER ∧ v.patch ≤ MAX_SAFE_INTEGER :=
  have hc := C12.canon_of_versionLang (C05_sound s v h)
  ⟨hc.1, hc.2.1, hc.2.2.1⟩

theorem C05_deterministic (s : List Char) (v w : Version) (h1 : VersionLang s v) (h2 : VersionLang s w) :
    v = w := by
  have a := C05_complete s v h1
  have b := C05_complete s w h2
  rw [a] at b
  cases b; rfl

theorem C05_too_long (s : List Char) (h : MAX_LENGTH < utf8Len s) : ∀ v, Version.parse s ≠ .ok v := by
  intro v hv
  unfold Version.parse at hv
  rw [if_pos h] at hv
  cases hv

theorem not_ok_of_toOption_none {s : List Char} (h : (Version.parse s).toOption = none) :
    ∀ v, Version.parse s ≠ .ok v := by
  intro v hv; rw [hv] at h; cases h

/-- the five junk strings of the property statement are rejected (that nothing outside the language is
accepted is `C05_sound`) -/
theorem C05_junk_rejected :
    (∀ v, Version.parse "1.2.3.4".toList ≠ .ok v) ∧ (∀ v, Version.parse "1.2.3 foo".toList ≠ .ok v) ∧
    (∀ v, Version.parse "1.2.3-".toList ≠ .ok v) ∧ (∀ v, Version.parse "1.2.3+".toList ≠ .ok v) ∧
    (∀ v, Version.parse "1.2.3-a..b".toList ≠ .ok v) :=
  ⟨not_ok_of_toOption_none (by decide +kernel), not_ok_of_toOption_none (by decide +kernel),
   not_ok_of_toOption_none (by decide +kernel), not_ok_of_toOption_none (by decide +kernel),
   not_ok_of_toOption_none (by decide +kernel)⟩

example : (Version.parse "v 01.2.3beta.0007-x+b.-".toList).toOption =
    some ⟨1, 2, 3, [.alpha "beta".toList, .alpha "0007-x".toList], [.alpha "b".toList, .alpha "-".toList]⟩ := by
  decide +kernel

end Semver.C05
