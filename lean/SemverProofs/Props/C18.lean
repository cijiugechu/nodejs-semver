import SemverProofs.Props.C12
/-!
# C18 — tuple conversions build the same version as parsing the dotted string

The model of `From<(T,T,T)>` / `From<(T,T,T,T)>` is type-agnostic (`Version.mk3`, `Version.mk4` on
naturals: the `as u64` casts are the identity on non-negative values).  That the ten integer types
agree: `GenEquiv/Version.lean` proves each translated conversion (`from_u8x3` … `from_isizex4`) equal
to `mk3` / `mk4`, and the correspondence check converts through every type the values fit in.
-/
namespace Semver.C18
open Semver C12

theorem renderNat_length (k : Nat) : ∀ n, n < 10 ^ (k + 1) → (renderNat n).length ≤ k + 1 := by
  induction k with
  | zero => intro n hn; rw [renderNat_lt (by simpa using hn)]; simp
  | succ k ih =>
    intro n hn
    by_cases h : n < 10
    · rw [renderNat_lt h]; simp
    · have := ih (n / 10) (Nat.div_lt_of_lt_mul (by rwa [Nat.pow_succ, Nat.mul_comm] at hn))
      rw [renderNat_ge h, List.length_append, List.length_singleton]
      exact Nat.succ_le_succ this

theorem utf8Len_digits (t : List Char) (h : t.all isDigit = true) : utf8Len t = t.length := by
  induction t with
  | nil => rfl
  | cons c cs ih =>
    simp only [List.all_cons, Bool.and_eq_true] at h
    -- a digit is ASCII (code at most 57 ≤ 127), so it takes one byte
    have hc : c.utf8Size = 1 := by
      have := h.1
      simp only [isDigit, Bool.and_eq_true, decide_eq_true_eq] at this
      rw [Char.utf8Size_eq_one_iff, UInt32.le_iff_toNat_le]
      exact Nat.le_trans ((char_le_iff c '9').1 this.2) (by decide)
    rw [utf8Len_cons, ih h.2, hc, List.length_cons, Nat.add_comm]

theorem utf8Len_renderNat (n : Nat) (h : n ≤ MAX_SAFE_INTEGER) : utf8Len (renderNat n) ≤ 15 := by
  rw [utf8Len_digits _ (all_digits_render n)]
  -- MAX_SAFE_INTEGER < 10 ^ 15
  exact renderNat_length 14 n (Nat.lt_of_le_of_lt h (by decide))

theorem utf8Len_renderCore (a b c : Nat) (ha : a ≤ MAX_SAFE_INTEGER) (hb : b ≤ MAX_SAFE_INTEGER)
    (hc : c ≤ MAX_SAFE_INTEGER) : utf8Len (renderCore a b c) ≤ 47 := by
  have := utf8Len_renderNat a ha
  have := utf8Len_renderNat b hb
  have := utf8Len_renderNat c hc
  have h1 : ('.' : Char).utf8Size = 1 := by decide
  -- 47 = 3 * 15 + 2 dots
  rw [renderCore, utf8Len_append, utf8Len_cons, utf8Len_append, utf8Len_cons, h1]
  omega

/-- C18, triples: the conversion is the parse of `a.b.c` and prints as it -/
theorem C18_from3 (a b c : Nat) (ha : a ≤ MAX_SAFE_INTEGER) (hb : b ≤ MAX_SAFE_INTEGER) (hc : c ≤ MAX_SAFE_INTEGER) :
    Version.parse (renderCore a b c) = .ok (Version.mk3 a b c) ∧
    (Version.mk3 a b c).render = renderCore a b c := by
  have hr : (Version.mk3 a b c).render = renderCore a b c := by simp [Version.render, Version.mk3]
  refine ⟨?_, hr⟩
  rw [← hr]
  apply C12_roundtrip
  · exact ⟨ha, hb, hc, by simp [Version.mk3], by simp [Version.mk3]⟩
  · have := utf8Len_renderCore a b c ha hb hc
    rw [hr]; unfold MAX_LENGTH; omega

/-- C18, quadruples: likewise for `a.b.c-d`; the last clause is the definition of `mk4` -/
theorem C18_from4 (a b c d : Nat) (ha : a ≤ MAX_SAFE_INTEGER) (hb : b ≤ MAX_SAFE_INTEGER)
    (hc : c ≤ MAX_SAFE_INTEGER) (hd : d ≤ MAX_SAFE_INTEGER) :
    Version.parse (renderCore a b c ++ '-' :: renderNat d) = .ok (Version.mk4 a b c d) ∧
    (Version.mk4 a b c d).render = renderCore a b c ++ '-' :: renderNat d ∧
    (Version.mk4 a b c d).pre = [.num d] := by
  have hr : (Version.mk4 a b c d).render = renderCore a b c ++ '-' :: renderNat d := by
    simp [Version.render, Version.mk4, renderIds, Ident.render]
  refine ⟨?_, hr, rfl⟩
  rw [← hr]
  apply C12_roundtrip
  · refine ⟨ha, hb, hc, ?_, by simp [Version.mk4]⟩
    intro i hi
    simp [Version.mk4] at hi
    subst hi
    show d < U64
    exact Nat.lt_of_le_of_lt hd MAX_lt_U64
  · have := utf8Len_renderCore a b c ha hb hc
    have := utf8Len_renderNat d hd
    have h2 : ('-' : Char).utf8Size = 1 := by decide
    rw [hr, utf8Len_append, utf8Len_cons, h2]; unfold MAX_LENGTH; omega

example : renderNat 300 = "300".toList := by
  rw [renderNat_ge (by decide), renderNat_ge (by decide), renderNat_lt (by decide)]
  decide

end Semver.C18
