import SemverProofs.Lemmas.Succ
import SemverProofs.Props.C04
/-!
# C11 — min_version returns the least version satisfying the range, or None if none

If `min_version` is `Some m` then `m` satisfies the range and no lower version does; if it is `None`
no version satisfies the range.  `minVersion_least` shows this for every value of the type, and
`C11_some`, `C11_none` are read off it; their hypothesis `Shaped r` is not used.

`min_version` tries, per alternative, one or two candidates in ascending order: the bound itself, the
successor of a prerelease, or the first prerelease and the release of the least admitted tuple.
`find_least` says when such a search finds the least element.
-/
namespace Semver.C11
open Semver Pred Bound

/-- searching an ascending list of candidates that holds, below every satisfying version, a
satisfying candidate finds the least satisfying version -/
theorem find_least {sat : Version → Bool} {cs : List Version} (asc : cs.Pairwise (· ≤ ·))
    (dom : ∀ w, sat w = true → ∃ c ∈ cs, sat c = true ∧ c ≤ w) :
    match cs.find? sat with
    | some m => sat m = true ∧ ∀ w, sat w = true → m ≤ w
    | none => ∀ w, sat w = false := by
  induction cs with
  | nil =>
    intro w
    refine Bool.eq_false_iff.2 fun h => ?_
    obtain ⟨c, hc, _⟩ := dom w h
    cases hc
  | cons a cs ih =>
    rw [List.pairwise_cons] at asc
    cases ha : sat a with
    | true =>
      rw [List.find?_cons_of_pos (h := ha)]
      refine ⟨ha, fun w hw => ?_⟩
      obtain ⟨c, hc, _, hcw⟩ := dom w hw
      rcases List.mem_cons.mp hc with rfl | hc
      · exact hcw
      · exact Std.le_trans (asc.1 c hc) hcw
    | false =>
      rw [List.find?_cons_of_neg (h := by simp [ha])]
      refine ih asc.2 (fun w hw => ?_)
      obtain ⟨c, hc, hsc, hcw⟩ := dom w hw
      rcases List.mem_cons.mp hc with rfl | hc
      · rw [ha] at hsc; cases hsc
      · exact ⟨c, hc, hsc, hcw⟩

theorem loCut_lt_of_sat {p q : Pred} {w : Version} (h : (BoundSet.mk (up q) (lo p)).satisfies w = true) :
    p.loCut < Cut.of w :=
  ((within_mk p q w).mp ((satisfies_iff _ w).mp h).1).1

theorem sat_down {p q : Pred} {c w : Version} (hw : (BoundSet.mk (up q) (lo p)).satisfies w = true)
    (hc : p.loCut < Cut.of c) (hcw : c ≤ w) (hg : c.isPre = true → (BoundSet.mk (up q) (lo p)).gate c = true) :
    (BoundSet.mk (up q) (lo p)).satisfies c = true := by
  rw [satisfies_iff, within_mk] at hw ⊢
  rw [← Cut.of_le_of] at hcw
  refine ⟨by grind, ?_⟩
  cases hp : c.isPre with
  | false => exact Or.inl rfl
  | true => exact Or.inr (hg hp)

/-- the two candidates of an alternative whose least admitted tuple is that of the release `n1`:
its first prerelease `n0`, which stands for every prerelease of the tuple, and `n1` itself -/
theorem two_candidates {p q : Pred} {n0 n1 w : Version} (h0 : p.loCut < Cut.of n0) (h01 : n0 < n1)
    (ht : sameTuple n0 n1 = true) (hr : n1.pre = []) (hw : (BoundSet.mk (up q) (lo p)).satisfies w = true)
    (h0w : n0 ≤ w) : ∃ c ∈ [n0, n1], (BoundSet.mk (up q) (lo p)).satisfies c = true ∧ c ≤ w := by
  by_cases hlt : w < n1
  · obtain ⟨t0, t1⟩ := tuple_between h0w (Std.le_of_lt hlt) ht
    have hg := gate_of_satisfies hw (pre_of_lt_release hr hlt t1)
    exact ⟨n0, List.mem_cons_self, sat_down hw h0 h0w (fun _ => by rw [gate_congr _ t0]; exact hg), h0w⟩
  · have hge := Std.not_lt.mp hlt
    rw [← Cut.of_lt_of] at h01
    refine ⟨n1, by simp, sat_down hw (by grind) hge (fun hp => ?_), hge⟩
    simp [Version.isPre, hr] at hp

theorem minVersion_spec (p q : Pred) :
    match (BoundSet.mk (up q) (lo p)).minVersion with
    | some m => (BoundSet.mk (up q) (lo p)).satisfies m = true ∧
        ∀ w, (BoundSet.mk (up q) (lo p)).satisfies w = true → m ≤ w
    | none => ∀ w, (BoundSet.mk (up q) (lo p)).satisfies w = false := by
  unfold BoundSet.minVersion
  -- the candidates of `>v` depend on `v.isPre` and are computed (`hc`); the other lists are literals
  cases p with
  | inc v =>
    -- candidate: the bound itself
    refine find_least (cs := [v]) (List.pairwise_singleton _ _) (fun w hw => ?_)
    have hvw : v ≤ w := by simpa using loCut_lt_of_sat hw
    refine ⟨v, by simp, sat_down hw (by simp) hvw (fun hp => ?_), hvw⟩
    rw [gate_mk]
    simp [gBound, hp, sameTuple]
  | exc v =>
    cases hvp : v.isPre with
    | true =>
      -- candidate: the successor of the prerelease
      have hvne : v.pre ≠ [] := by
        simp only [Version.isPre, Bool.not_eq_true', List.isEmpty_eq_false_iff] at hvp; exact hvp
      have hc : (BoundSet.mk (up q) (lo (exc v))).minCandidates = [succPre v] := by
        simp [BoundSet.minCandidates, hvp, succPre]
      rw [hc]
      refine find_least (List.pairwise_singleton _ _) (fun w hw => ?_)
      have hvw := succPre_le v w hvne (by simpa using loCut_lt_of_sat hw)
      refine ⟨_, List.mem_cons_self, sat_down hw (by simpa using lt_succPre v hvne) hvw (fun _ => ?_), hvw⟩
      rw [gate_mk]
      simp [gBound, hvp, sameTuple, succPre]
    | false =>
      -- candidates: first prerelease of the next patch tuple, then its release
      have hvnil : v.pre = [] := by
        simp only [Version.isPre, Bool.not_eq_false', List.isEmpty_iff] at hvp; exact hvp
      have hc : (BoundSet.mk (up q) (lo (exc v))).minCandidates = [succRel v, { v with patch := v.patch + 1 }] := by
        simp [BoundSet.minCandidates, hvp, succRel, hvnil]
      have h01 : succRel v < { v with patch := v.patch + 1 } := by
        rw [lt_iff_fields]; simp [succRel, hvnil, cmpPre]
      rw [hc]
      refine find_least (List.pairwise_pair.mpr (Std.le_of_lt h01)) (fun w hw => ?_)
      exact two_candidates (by simpa using lt_succRel v) h01 (by simp [sameTuple, succRel]) hvnil hw
        (succRel_le v w hvnil (by simpa using loCut_lt_of_sat hw))
  | unb =>
    have h01 : leastV < Version.mk3 0 0 0 := by decide
    refine find_least (cs := [leastV, Version.mk3 0 0 0]) (List.pairwise_pair.mpr (Std.le_of_lt h01)) (fun w hw => ?_)
    exact two_candidates trivial h01 rfl rfl hw (leastV_le w)

/-- every alternative has the `(Lower, Upper)` shape (true of every range the crate builds) -/
def Shaped (r : Range) : Prop := ∀ s ∈ r, ∃ p q, s = ⟨up q, lo p⟩

/-- an alternative without the `(Lower, Upper)` shape admits nothing and yields no candidate it satisfies -/
theorem set_min_spec (s : BoundSet) :
    match s.minVersion with
    | some m => s.satisfies m = true ∧ ∀ w, s.satisfies w = true → m ≤ w
    | none => ∀ w, s.satisfies w = false := by
  obtain ⟨u, l⟩ := s
  cases l with
  | up p => exact fun w => by simp [BoundSet.satisfies, BoundSet.within]
  | lo p =>
    cases u with
    | up q => exact minVersion_spec p q
    | lo q =>
      have hf : ∀ w, (BoundSet.mk (lo q) (lo p)).satisfies w = false := by
        intro w; simp [BoundSet.satisfies, BoundSet.within]
      have : (BoundSet.mk (lo q) (lo p)).minVersion = none := by simp [BoundSet.minVersion, hf]
      rw [this]
      exact hf

theorem set_min_some {s : BoundSet} {m : Version} (h : s.minVersion = some m) :
    s.satisfies m = true ∧ ∀ w, s.satisfies w = true → m ≤ w := by
  have := set_min_spec s
  rwa [h] at this

theorem set_min_none {s : BoundSet} (h : s.minVersion = none) : ∀ w, s.satisfies w = false := by
  have := set_min_spec s
  rwa [h] at this

theorem minVersion_least (r : Range) :
    match Range.minVersion r with
    | some m => Range.satisfies r m = true ∧ ∀ w, Range.satisfies r w = true → m ≤ w
    | none => ∀ w, Range.satisfies r w = false := by
  have hmin := C04.C04_min (r.filterMap BoundSet.minVersion)
  -- every satisfying version lies above the candidate of its alternative
  have cand : ∀ w, Range.satisfies r w = true → ∃ m' ∈ r.filterMap BoundSet.minVersion, m' ≤ w := by
    intro w hw
    obtain ⟨s, hs, hsw⟩ := (Range.satisfies_iff r w).mp hw
    cases hm : s.minVersion with
    | none => have := set_min_none hm w; rw [hsw] at this; cases this
    | some m' => exact ⟨m', List.mem_filterMap.mpr ⟨s, hs, hm⟩, (set_min_some hm).2 w hsw⟩
  cases h : Range.minVersion r with
  | none =>
    intro w
    refine Bool.eq_false_iff.2 fun hw => ?_
    obtain ⟨m', hm', _⟩ := cand w hw
    rw [hmin.1.mp h] at hm'
    cases hm'
  | some m =>
    obtain ⟨hmem, hle⟩ := hmin.2 m h
    obtain ⟨s, hs, hsm⟩ := List.mem_filterMap.mp hmem
    refine ⟨(Range.satisfies_iff r m).mpr ⟨s, hs, (set_min_some hsm).1⟩, fun w hw => ?_⟩
    obtain ⟨m', hm', hm'w⟩ := cand w hw
    exact C04.C04_trans m m' w (hle m' hm') hm'w

/-- `Some(m)`: `m` satisfies the range and no lower version does -/
theorem C11_some (r : Range) (hr : Shaped r) (m : Version) (h : Range.minVersion r = some m) :
    Range.satisfies r m = true ∧ ∀ w, w < m → Range.satisfies r w = false := by
  have := minVersion_least r
  rw [h] at this
  refine ⟨this.1, fun w hw => ?_⟩
  exact Bool.eq_false_iff.2 fun hsat => Std.not_lt.mpr (this.2 w hsat) hw

/-- `None`: no version satisfies the range -/
theorem C11_none (r : Range) (hr : Shaped r) (h : Range.minVersion r = none) :
    ∀ w, Range.satisfies r w = false := by
  have := minVersion_least r
  rwa [h] at this

/-- alternatives that admit nothing do not influence the answer: they contribute no candidate -/
theorem C11_empty_alternative_ignored (r : Range) (s : BoundSet) (hs : ∃ p q, s = ⟨up q, lo p⟩)
    (hempty : ∀ w, s.satisfies w = false) : Range.minVersion (s :: r) = Range.minVersion r := by
  have : s.minVersion = none := by
    cases h : s.minVersion with
    | none => rfl
    | some m => have := (set_min_some h).1; rw [hempty m] at this; cases this
  simp [Range.minVersion, this]

/-- `>1.0.0 <1.0.1` admits nothing: `None` -/
example : Range.minVersion [⟨up (exc (Version.mk3 1 0 1)), lo (exc (Version.mk3 1 0 0))⟩] = none := by decide +kernel
/-- `<0.0.0-0 || >=2.0.0`: the empty alternative is ignored: `2.0.0` -/
example : Range.minVersion [⟨up (exc leastV), lo unb⟩, ⟨up unb, lo (inc (Version.mk3 2 0 0))⟩] =
    some (Version.mk3 2 0 0) := by decide +kernel
/-- `>1.0.0 || >=1.0.1-0`: `1.0.1-0` -/
example : Range.minVersion [⟨up unb, lo (exc (Version.mk3 1 0 0))⟩, ⟨up unb, lo (inc (Version.mk4 1 0 1 0))⟩] =
    some (Version.mk4 1 0 1 0) := by decide +kernel

end Semver.C11
