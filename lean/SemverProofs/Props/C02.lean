import SemverProofs.Lemmas.Gate
import SemverProofs.Lemmas.ParseWF
import SemverProofs.Lemmas.Locality
import SemverProofs.Lemmas.NpmParse
import SemverProofs.Lemmas.Closed
/-!
# C02 — space-joined comparators intersect; `||` alternatives unite

Five parts: (1) the model's AND-fold and alternative list, for
every version; (2) the text `a || b` for all texts (`C02_or_alts`, from `Lemmas/Locality.lean`);
(3) the text `a b` for lists of texts that `simple` reads whole (`and_whole*`), the laws being proved once
for any three texts whose alternatives are the folds of `A`, `B` and `A ++ B`; its two instances:
(4) comparator lists of the npm grammar (`C02_and_text*`), (5) closed tokens, no grammar (`C02_and_tokens*`).
The statements about texts speak of the model's parser; that it is the crate's is a theorem about the
translated source (`GenEquiv.Range_parse`) and the correspondence check, and the C02 oracle tests the
same laws on the crate for generated pairs.
-/
namespace Semver.C02
open Semver Pred Bound

def allWithin (items : List BoundSet) (v : Version) : Prop := ∀ s ∈ items, s.within v = true
def anyGate (items : List BoundSet) (v : Version) : Prop := ∃ s ∈ items, s.gate v = true

theorem allWithin_append {xs ys : List BoundSet} {v : Version} :
    allWithin (xs ++ ys) v ↔ allWithin xs v ∧ allWithin ys v := List.forall_mem_append

theorem allWithin_singleton {b : BoundSet} {v : Version} : allWithin [b] v ↔ b.within v = true := by
  simp [allWithin]

theorem allWithin_perm {xs ys : List BoundSet} (hp : xs.Perm ys) {v : Version} :
    allWithin xs v ↔ allWithin ys v :=
  ⟨fun h s hs => h s (hp.mem_iff.mpr hs), fun h s hs => h s (hp.mem_iff.mp hs)⟩

theorem anyGate_append {xs ys : List BoundSet} {v : Version} :
    anyGate (xs ++ ys) v ↔ anyGate xs v ∨ anyGate ys v := by
  simp only [anyGate, List.mem_append, or_and_right, exists_or]

theorem anyGate_singleton {b : BoundSet} {v : Version} : anyGate [b] v ↔ b.gate v = true := by
  simp [anyGate]

theorem anyGate_perm {xs ys : List BoundSet} (hp : xs.Perm ys) {v : Version} : anyGate xs v ↔ anyGate ys v :=
  ⟨fun ⟨s, hs, hg⟩ => ⟨s, hp.mem_iff.mp hs, hg⟩, fun ⟨s, hs, hg⟩ => ⟨s, hp.mem_iff.mpr hs, hg⟩⟩

/-- invariant of the fold: the accumulator means the items consumed so far -/
def Inv (acc : Option BoundSet) (seen : List BoundSet) : Prop :=
  match acc with
  | some r => r.WF ∧ ∀ v, (r.within v = true ↔ allWithin seen v) ∧
      (v.isPre = true → r.within v = true → (r.gate v = true ↔ anyGate seen v))
  | none => ∀ v, ¬ allWithin seen v

theorem inv_step {acc : Option BoundSet} {seen : List BoundSet} {b : BoundSet} (h : Inv acc seen) (hb : b.WF) :
    Inv (acc.bind (·.intersect b)) (seen ++ [b]) := by
  cases acc with
  | none => exact fun v hall => h v (allWithin_append.1 hall).1
  | some r =>
    obtain ⟨hr, hsem⟩ := h
    simp only [Option.bind_some]
    cases hi : r.intersect b with
    | none =>
      intro v hall
      obtain ⟨h1, h2⟩ := allWithin_append.1 hall
      exact intersect_none hr hb hi v ⟨(hsem v).1.mpr h1, allWithin_singleton.1 h2⟩
    | some x =>
      have hx := intersect_some hr hb hi
      refine ⟨hx.1, fun v => ⟨?_, fun hv hw => ?_⟩⟩
      · rw [hx.2 v, (hsem v).1, allWithin_append, allWithin_singleton]
      · have ⟨w1, w2⟩ := (hx.2 v).mp hw
        rw [intersect_gate hr hb hi hv w1 w2, Bool.or_eq_true, (hsem v).2 hv w1, anyGate_append,
          anyGate_singleton]

theorem inv_first (first : BoundSet) (h : first.WF) : Inv (some first) [first] :=
  ⟨h, fun _ => ⟨allWithin_singleton.symm, fun _ _ => anyGate_singleton.symm⟩⟩

/-- the `none`s are garbage and invalid comparators -/
theorem fold_sem (bs : List (Option BoundSet)) (hwf : ∀ x, some x ∈ bs → x.WF) (hne : bs.filterMap id ≠ []) :
    (∃ r, foldSets bs = [r] ∧ r.WF ∧ ∀ v, (r.within v = true ↔ allWithin (bs.filterMap id) v) ∧
        (v.isPre = true → r.within v = true → (r.gate v = true ↔ anyGate (bs.filterMap id) v))) ∨
    (foldSets bs = [] ∧ ∀ v, ¬ allWithin (bs.filterMap id) v) := by
  obtain ⟨acc, inv, heq⟩ := foldSets_induction (motive := fun seen acc => Inv acc seen) bs
    (fun x hx => inv_first x (hwf x hx)) (fun _ _ b hb h => inv_step h (hwf b hb)) hne
  cases acc with
  | none => exact Or.inr ⟨heq, inv⟩
  | some r => exact Or.inl ⟨r, heq, inv.1, inv.2⟩

theorem fold_sem_mem {bs : List (Option BoundSet)} (hwf : ∀ x, some x ∈ bs → x.WF) {r : BoundSet}
    (hr : r ∈ foldSets bs) (v : Version) :
    (r.within v = true ↔ allWithin (bs.filterMap id) v) ∧
      (v.isPre = true → r.within v = true → (r.gate v = true ↔ anyGate (bs.filterMap id) v)) := by
  have hne : bs.filterMap id ≠ [] := by
    intro h0
    rw [foldSets_eq, h0] at hr
    cases hr
  rcases fold_sem bs hwf hne with ⟨r', e, _, hsem⟩ | ⟨e, _⟩
  · rw [e] at hr
    obtain rfl := List.mem_singleton.mp hr
    exact hsem v
  · rw [e] at hr
    cases hr

/-- the fold of the comparators of one alternative is one interval whose bounds test is the
conjunction and whose prerelease gate is the disjunction of theirs, or nothing when nothing lies within all -/
theorem C02_fold_sem (items : List BoundSet) (hwf : ∀ s ∈ items, s.WF) (hne : items ≠ []) :
    (∃ r, foldSets (items.map some) = [r] ∧ r.WF ∧ ∀ v, (r.within v = true ↔ allWithin items v) ∧
        (v.isPre = true → r.within v = true → (r.gate v = true ↔ anyGate items v))) ∨
    (foldSets (items.map some) = [] ∧ ∀ v, ¬ allWithin items v) := by
  have hitems : (items.map some).filterMap id = items := by simp [List.filterMap_map]
  have := fold_sem (items.map some) (fun x hx => hwf x (by simpa using hx)) (by rwa [hitems])
  rwa [hitems] at this

theorem C02_never_union (bs : List (Option BoundSet)) : (foldSets bs).length ≤ 1 := by
  unfold foldSets
  split
  · simp
  · split <;> simp

theorem C02_garbage_ignored (bs : List (Option BoundSet)) :
    foldSets (none :: bs) = foldSets bs ∧ foldSets (bs ++ [none]) = foldSets bs :=
  ⟨foldSets_congr rfl, foldSets_congr (by simp [List.filterMap_append])⟩

theorem fold_sat {items : List BoundSet} {r : BoundSet} {v : Version}
    (h : (r.within v = true ↔ allWithin items v) ∧
      (v.isPre = true → r.within v = true → (r.gate v = true ↔ anyGate items v))) :
    r.satisfies v = true ↔ (allWithin items v ∧ (v.isPre = false ∨ anyGate items v)) := by
  rw [satisfies_iff, h.1]
  refine and_congr_right fun hw => ?_
  cases hv : v.isPre with
  | false => simp
  | true => rw [h.2 hv (h.1.mpr hw)]

/-- `Range.satisfies l v = true` written out (`Range.satisfies_iff`), for the list of at most one interval
that `foldSets` returns -/
def foldSat (l : List BoundSet) (v : Version) : Prop := ∃ r ∈ l, r.satisfies v = true

theorem foldSets_sat (bs : List (Option BoundSet)) (hwf : ∀ x, some x ∈ bs → x.WF) (hne : bs.filterMap id ≠ [])
    (v : Version) :
    (foldSets bs).any (·.satisfies v) = true ↔
      allWithin (bs.filterMap id) v ∧ (v.isPre = false ∨ anyGate (bs.filterMap id) v) := by
  rcases fold_sem bs hwf hne with ⟨r, hr, _, hsem⟩ | ⟨hr, hsem⟩
  · rw [hr]
    simp only [List.any_cons, List.any_nil, Bool.or_false]
    exact fold_sat (hsem v)
  · rw [hr]
    simp only [List.any_nil, Bool.false_eq_true, false_iff]
    exact fun h => hsem v h.1

theorem foldSat_iff (items : List BoundSet) (hwf : ∀ s ∈ items, s.WF) (hne : items ≠ []) (v : Version) :
    foldSat (foldSets (items.map some)) v ↔ (allWithin items v ∧ (v.isPre = false ∨ anyGate items v)) := by
  have := foldSets_sat (items.map some) (by simpa using hwf) (by simpa using hne) v
  simpa [foldSat, List.any_eq_true] using this

/-- for non-empty lists `xs`, `ys` of comparator intervals: a release version satisfies the fold of
`xs ++ ys` exactly when it satisfies both folds; a prerelease exactly when it lies within all of both
and satisfies at least one -/
theorem C02_and (xs ys : List BoundSet) (hx : ∀ s ∈ xs, s.WF) (hy : ∀ s ∈ ys, s.WF)
    (hxne : xs ≠ []) (hyne : ys ≠ []) (v : Version) :
    (v.isPre = false →
      (foldSat (foldSets ((xs ++ ys).map some)) v ↔
        (foldSat (foldSets (xs.map some)) v ∧ foldSat (foldSets (ys.map some)) v))) ∧
    (v.isPre = true →
      (foldSat (foldSets ((xs ++ ys).map some)) v ↔
        (allWithin xs v ∧ allWithin ys v ∧
          (foldSat (foldSets (xs.map some)) v ∨ foldSat (foldSets (ys.map some)) v)))) := by
  have hxy : ∀ s ∈ xs ++ ys, s.WF := List.forall_mem_append.2 ⟨hx, hy⟩
  have hne : xs ++ ys ≠ [] := by simp [hxne]
  rw [foldSat_iff (xs ++ ys) hxy hne v, foldSat_iff xs hx hxne v, foldSat_iff ys hy hyne v]
  rw [allWithin_append, anyGate_append]
  constructor
  · intro hv; simp only [hv, true_or, and_true]
  · intro hv
    simp only [hv, Bool.true_eq_false, false_or]
    exact ⟨fun ⟨⟨a, b⟩, g⟩ => ⟨a, b, g.imp (And.intro a) (And.intro b)⟩,
      fun ⟨a, b, g⟩ => ⟨⟨a, b⟩, g.imp And.right And.right⟩⟩

theorem C02_comm (xs ys : List BoundSet) (hp : xs.Perm ys) (hx : ∀ s ∈ xs, s.WF) (hne : xs ≠ []) (v : Version) :
    foldSat (foldSets (xs.map some)) v ↔ foldSat (foldSets (ys.map some)) v := by
  have hy : ∀ s ∈ ys, s.WF := fun s hs => hx s (hp.mem_iff.mpr hs)
  have hyne : ys ≠ [] := by
    intro h0
    rw [h0] at hp
    exact hne (List.Perm.eq_nil hp)
  rw [foldSat_iff xs hx hne v, foldSat_iff ys hy hyne v, allWithin_perm hp, anyGate_perm hp]

theorem C02_parse_is_flatten (s : List Char) :
    (boundSets s).1 = ((rangeP s).1 :: (boundSetsTail (rangeP s).2).1).flatten := by
  unfold boundSets
  rfl

theorem C02_or (ra rb : Range) (v : Version) :
    Range.satisfies (ra ++ rb) v = (Range.satisfies ra v || Range.satisfies rb v) := by
  simp [Range.satisfies, List.any_append]

theorem C02_or_comm (ra rb : Range) (hp : ra.Perm rb) (v : Version) :
    Range.satisfies ra v = Range.satisfies rb v := by
  rw [Bool.eq_iff_iff, Range.satisfies_iff, Range.satisfies_iff]
  constructor
  · rintro ⟨s, hs, h⟩; exact ⟨s, hp.mem_iff.mp hs, h⟩
  · rintro ⟨s, hs, h⟩; exact ⟨s, hp.mem_iff.mpr hs, h⟩

/-- `range()` yields at most one interval per alternative -/
theorem C02_alternatives_are_folds (s : List Char) : ((rangeP s).1).length ≤ 1 := by
  unfold rangeP
  exact C02_never_union _

/-! `>=1.2.3 <1.0.0` has no alternative (it is not the union) -/

example : foldSets [BoundSet.atLeast (.inc (Version.mk3 1 2 3)), BoundSet.atMost (.exc (Version.mk3 1 0 0))] = [] := by
  decide +kernel

/-! ## (2) the text `a || b`, for all texts `a`, `b` (garbage, blanks, hyphen forms, anything) -/

/-- the separator as the crate's users write it -/
def orText (a b : List Char) : List Char := a ++ ' ' :: '|' :: '|' :: ' ' :: b

example : orText "1.x".toList "^2".toList = "1.x || ^2".toList := by decide +kernel

theorem C02_or_alts (a b : List Char) : altsOf (orText a b) = altsOf a ++ altsOf b :=
  alts_sep a b [' '] [' '] (by simp) rfl rfl

theorem C02_or_text (a b : List Char) (ra rb : Range) (ha : Range.parse a = .ok ra) (hb : Range.parse b = .ok rb) :
    Range.parse (orText a b) = .ok (ra ++ rb) := by
  obtain ⟨ha1, ha2⟩ := parse_ok_iff_alts.mp ha
  obtain ⟨hb1, _⟩ := parse_ok_iff_alts.mp hb
  apply parse_ok_iff_alts.mpr
  rw [C02_or_alts, ha1, hb1]
  exact ⟨rfl, by simp [ha2]⟩

theorem C02_or_text_sat (a b : List Char) (ra rb : Range) (ha : Range.parse a = .ok ra) (hb : Range.parse b = .ok rb) :
    ∃ r, Range.parse (orText a b) = .ok r ∧
      ∀ v, Range.satisfies r v = (Range.satisfies ra v || Range.satisfies rb v) :=
  ⟨ra ++ rb, C02_or_text a b ra rb ha hb, fun v => C02_or ra rb v⟩

theorem C02_or_text_left_only (a b : List Char) (ra : Range) (ha : Range.parse a = .ok ra)
    (hb : ∀ r, Range.parse b ≠ .ok r) : Range.parse (orText a b) = .ok ra := by
  obtain ⟨ha1, ha2⟩ := parse_ok_iff_alts.mp ha
  apply parse_ok_iff_alts.mpr
  rw [C02_or_alts, ha1, parse_fails_iff_alts.mp hb]
  exact ⟨by simp, ha2⟩

theorem C02_or_text_right_only (a b : List Char) (rb : Range) (hb : Range.parse b = .ok rb)
    (ha : ∀ r, Range.parse a ≠ .ok r) : Range.parse (orText a b) = .ok rb := by
  obtain ⟨hb1, hb2⟩ := parse_ok_iff_alts.mp hb
  apply parse_ok_iff_alts.mpr
  rw [C02_or_alts, hb1, parse_fails_iff_alts.mp ha]
  exact ⟨by simp, hb2⟩

theorem C02_or_text_neither (a b : List Char) (ha : ∀ r, Range.parse a ≠ .ok r) (hb : ∀ r, Range.parse b ≠ .ok r) :
    ∀ r, Range.parse (orText a b) ≠ .ok r := by
  apply parse_fails_iff_alts.mpr
  rw [C02_or_alts, parse_fails_iff_alts.mp ha, parse_fails_iff_alts.mp hb]; rfl

theorem C02_or_text_comm (a b : List Char) :
    (∀ r, Range.parse (orText a b) = .ok r → ∃ r', Range.parse (orText b a) = .ok r' ∧
      ∀ v, Range.satisfies r v = Range.satisfies r' v) := by
  intro r hr
  obtain ⟨h1, h2⟩ := parse_ok_iff_alts.mp hr
  rw [C02_or_alts] at h1
  refine ⟨altsOf b ++ altsOf a, parse_ok_iff_alts.mpr ⟨C02_or_alts b a, ?_⟩, ?_⟩
  · intro h0
    apply h2
    rw [← h1]
    simp only [List.append_eq_nil_iff] at h0 ⊢
    exact ⟨h0.2, h0.1⟩
  · intro v
    rw [← h1]
    exact C02_or_comm _ _ List.perm_append_comm v

theorem C02_or_text_assoc (a b c : List Char) :
    altsOf (orText a (orText b c)) = altsOf a ++ altsOf b ++ altsOf c := by
  rw [C02_or_alts, C02_or_alts, List.append_assoc]

/-! a side that parses (`1`), one that does not (the empty text).  Not `decide`: `rangeTail` and
`boundSetsTail` are by well-founded recursion and do not reduce; `1` is a text of the grammar, on which
`parse_text` says what the parser returns. -/
theorem one_parses : ∃ r, Range.parse ['1'] = .ok r := by
  have h : Spec.Npm.AstText [.simples [.bare (.maj 1)]] ['1'] :=
    ⟨[], ['1'], [], rfl, rfl, rfl, .one (.simples (.one (.bare (Or.inl (.one (.num Spec.Npm.numText_one))))))⟩
  rw [parse_text h]
  exact ⟨_, rfl⟩

theorem empty_fails : ∀ r, Range.parse [] ≠ .ok r := parse_fails_iff_alts.mpr boundSets_nil

example : ∃ r, Range.parse ['1'] = .ok r ∧ Range.parse (orText ['1'] []) = .ok r := by
  obtain ⟨r, hr⟩ := one_parses
  exact ⟨r, hr, C02_or_text_left_only _ _ r hr empty_fails⟩

/-! ## (3) the text `a b`, for lists of texts that `simple` reads whole (`Whole`)

The laws are proved once, for any three texts whose alternatives are the folds of `A`, of `B` and of
`A ++ B`; lists of `Whole` texts joined by blanks are such texts (`parse_tokens`).  Comparator lists of
the grammar (4) and lists of closed tokens (5) are lists of `Whole` texts. -/
open Spec Spec.Npm

/-- a version satisfies the text (a text that does not parse is satisfied by nothing): the range it
parses to is satisfied, `satText_iff_parse` -/
def satText (t : List Char) (v : Version) : Prop := ∃ s ∈ altsOf t, s.satisfies v = true
def withinText (t : List Char) (v : Version) : Prop := ∃ s ∈ altsOf t, s.within v = true

theorem satText_iff_parse (t : List Char) (v : Version) :
    satText t v ↔ ∃ R, Range.parse t = .ok R ∧ Range.satisfies R v = true := by
  constructor
  · rintro ⟨s, hs, hv⟩
    refine ⟨altsOf t, parse_ok_iff_alts.mpr ⟨rfl, ?_⟩, ?_⟩
    · intro h0
      rw [h0] at hs
      cases hs
    · rw [Range.satisfies_iff]; exact ⟨s, hs, hv⟩
  · rintro ⟨R, hR, hv⟩
    obtain ⟨rfl, _⟩ := parse_ok_iff_alts.mp hR
    rw [Range.satisfies_iff] at hv
    exact hv

theorem withinText_of_fold {A : List BoundSet} {t : List Char} (h : altsOf t = foldSets (A.map some))
    (hwf : ∀ x ∈ A, x.WF) (hne : A ≠ []) (v : Version) : withinText t v ↔ allWithin A v := by
  unfold withinText
  rw [h]
  rcases C02_fold_sem A hwf hne with ⟨r, hr, _, hsem⟩ | ⟨hr, hsem⟩
  · rw [hr]
    simp only [List.mem_singleton, exists_eq_left]
    exact (hsem v).1
  · rw [hr]
    simp only [List.not_mem_nil, false_and, exists_false, false_iff]
    exact hsem v

theorem satText_of_fold {A : List BoundSet} {t : List Char} (h : altsOf t = foldSets (A.map some)) (v : Version) :
    satText t v ↔ foldSat (foldSets (A.map some)) v := by
  unfold satText foldSat
  rw [h]

theorem and_of_folds {A B : List BoundSet} {ta tb tab : List Char} (ha : altsOf ta = foldSets (A.map some))
    (hb : altsOf tb = foldSets (B.map some)) (hab : altsOf tab = foldSets ((A ++ B).map some))
    (wa : ∀ x ∈ A, x.WF) (wb : ∀ x ∈ B, x.WF) (hane : A ≠ []) (hbne : B ≠ []) (v : Version) :
    (v.isPre = false → (satText tab v ↔ (satText ta v ∧ satText tb v))) ∧
    (v.isPre = true → (satText tab v ↔ (withinText ta v ∧ withinText tb v ∧ (satText ta v ∨ satText tb v)))) := by
  rw [satText_of_fold hab, satText_of_fold ha, satText_of_fold hb, withinText_of_fold ha wa hane,
    withinText_of_fold hb wb hbne]
  exact C02_and A B wa wb hane hbne v

theorem comm_of_folds {A B : List BoundSet} {tab tba : List Char} (hab : altsOf tab = foldSets ((A ++ B).map some))
    (hba : altsOf tba = foldSets ((B ++ A).map some)) (wa : ∀ x ∈ A, x.WF) (wb : ∀ x ∈ B, x.WF) (hane : A ≠ [])
    (v : Version) : satText tab v ↔ satText tba v := by
  rw [satText_of_fold hab, satText_of_fold hba]
  exact C02_comm _ _ List.perm_append_comm (List.forall_mem_append.2 ⟨wa, wb⟩) (by simp [hane]) v

def setsOfToks (ks : List (List Char)) : List BoundSet := (ks.map (fun k => (simple k).1)).filterMap id

theorem setsOfToks_append (ka kb : List (List Char)) : setsOfToks (ka ++ kb) = setsOfToks ka ++ setsOfToks kb := by
  simp [setsOfToks, List.filterMap_append]

theorem setsOfToks_wf (ks : List (List Char)) : ∀ x ∈ setsOfToks ks, x.WF := by
  intro x hx
  simp only [setsOfToks, List.mem_filterMap, List.mem_map, id] at hx
  obtain ⟨o, ⟨k, _, rfl⟩, ho⟩ := hx
  exact simple_wf k x ho

theorem parse_tokens {ks : List (List Char)} {T : List Char} (h : Tokens ks T) (hk : ∀ k ∈ ks, Whole k) :
    altsOf T = foldSets ((setsOfToks ks).map some) := by
  rw [alts_tokens h hk]
  exact foldSets_congr (by simp [setsOfToks, List.filterMap_map])

section
variable {ka kb : List (List Char)} {ta tb sp : List Char} (ha : Tokens ka ta) (hb : Tokens kb tb)
  (hwa : ∀ k ∈ ka, Whole k) (hwb : ∀ k ∈ kb, Whole k) (hsp : Blanks1 sp)
include ha hb hwa hwb hsp

theorem parse_tokens_append : altsOf (ta ++ (sp ++ tb)) = foldSets ((setsOfToks ka ++ setsOfToks kb).map some) := by
  rw [parse_tokens (tokens_append ha hsp hb) (List.forall_mem_append.2 ⟨hwa, hwb⟩), setsOfToks_append]

theorem and_whole (hane : setsOfToks ka ≠ []) (hbne : setsOfToks kb ≠ []) (v : Version) :
    (v.isPre = false → (satText (ta ++ (sp ++ tb)) v ↔ (satText ta v ∧ satText tb v))) ∧
    (v.isPre = true → (satText (ta ++ (sp ++ tb)) v ↔
      (withinText ta v ∧ withinText tb v ∧ (satText ta v ∨ satText tb v)))) :=
  and_of_folds (parse_tokens ha hwa) (parse_tokens hb hwb) (parse_tokens_append ha hb hwa hwb hsp)
    (setsOfToks_wf ka) (setsOfToks_wf kb) hane hbne v

theorem and_whole_never_union (hane : setsOfToks ka ≠ []) (hbne : setsOfToks kb ≠ []) :
    (altsOf (ta ++ (sp ++ tb))).length ≤ 1 ∧
    (∀ v, satText (ta ++ (sp ++ tb)) v → withinText ta v ∧ withinText tb v) := by
  have hab := parse_tokens_append ha hb hwa hwb hsp
  constructor
  · rw [hab]; exact C02_never_union _
  · intro v ⟨s, hs, hsat⟩
    have hw : withinText (ta ++ (sp ++ tb)) v := ⟨s, hs, ((satisfies_iff s v).mp hsat).1⟩
    rw [withinText_of_fold hab (List.forall_mem_append.2 ⟨setsOfToks_wf ka, setsOfToks_wf kb⟩) (by simp [hane]),
      allWithin_append] at hw
    rwa [withinText_of_fold (parse_tokens ha hwa) (setsOfToks_wf ka) hane,
      withinText_of_fold (parse_tokens hb hwb) (setsOfToks_wf kb) hbne]

theorem and_whole_garbage_left (hg : setsOfToks ka = []) : altsOf (ta ++ (sp ++ tb)) = altsOf tb := by
  rw [parse_tokens_append ha hb hwa hwb hsp, parse_tokens hb hwb, hg]
  rfl

theorem and_whole_garbage_right (hg : setsOfToks kb = []) : altsOf (ta ++ (sp ++ tb)) = altsOf ta := by
  rw [parse_tokens_append ha hb hwa hwb hsp, parse_tokens ha hwa, hg, List.append_nil]

theorem and_whole_comm {sp' : List Char} (hsp' : Blanks1 sp') (hane : setsOfToks ka ≠ []) (v : Version) :
    satText (ta ++ (sp ++ tb)) v ↔ satText (tb ++ (sp' ++ ta)) v :=
  comm_of_folds (parse_tokens_append ha hb hwa hwb hsp) (parse_tokens_append hb ha hwb hwa hsp')
    (setsOfToks_wf ka) (setsOfToks_wf kb) hane v

end

/-! ## (4) the text `a b` for comparator lists of the grammar (`SimplesText`; no hyphen form) -/

def setsOf (l : List Simple) : List BoundSet := (l.map evalSimple).filterMap id

theorem ne_nil_of_setsOf {l : List Simple} (h : setsOf l ≠ []) : l ≠ [] := fun e => h (by rw [e]; rfl)

theorem simplesText_whole {l : List Simple} {t : List Char} (h : SimplesText l t) (hne : l ≠ []) :
    ∃ ks, Tokens ks t ∧ (∀ k ∈ ks, Whole k) ∧ setsOfToks ks = setsOf l := by
  obtain ⟨ks, hks, hw, hmap⟩ := simplesText_tokens garbageTok_ok h hne
  exact ⟨ks, hks, hw, by rw [setsOfToks, hmap]; rfl⟩

/-- **C02_and_text**: for comparator lists `a`, `b` of the grammar, each with at least one valid
comparator, and any blanks `sp` between them: a release version satisfies the text `a b` exactly
when it satisfies both; a prerelease version exactly when it lies within the bounds of both and
satisfies at least one -/
theorem C02_and_text {la lb : List Simple} {ta tb sp : List Char} (ha : SimplesText la ta) (hb : SimplesText lb tb)
    (hsp : Blanks1 sp) (hane : setsOf la ≠ []) (hbne : setsOf lb ≠ []) (v : Version) :
    (v.isPre = false → (satText (ta ++ (sp ++ tb)) v ↔ (satText ta v ∧ satText tb v))) ∧
    (v.isPre = true → (satText (ta ++ (sp ++ tb)) v ↔
      (withinText ta v ∧ withinText tb v ∧ (satText ta v ∨ satText tb v)))) := by
  obtain ⟨ka, hka, hwa, ea⟩ := simplesText_whole ha (ne_nil_of_setsOf hane)
  obtain ⟨kb, hkb, hwb, eb⟩ := simplesText_whole hb (ne_nil_of_setsOf hbne)
  exact and_whole hka hkb hwa hwb hsp (ea ▸ hane) (eb ▸ hbne) v

/-- … and it never widens to a union: `a b` parses to at most one interval, and whatever satisfies
it lies within the bounds of both sides — so when nothing lies within both, `a b` either fails to
parse or parses to a range no version satisfies -/
theorem C02_and_text_never_union {la lb : List Simple} {ta tb sp : List Char} (ha : SimplesText la ta)
    (hb : SimplesText lb tb) (hsp : Blanks1 sp) (hane : setsOf la ≠ []) (hbne : setsOf lb ≠ []) :
    (altsOf (ta ++ (sp ++ tb))).length ≤ 1 ∧
    (∀ v, satText (ta ++ (sp ++ tb)) v → withinText ta v ∧ withinText tb v) := by
  obtain ⟨ka, hka, hwa, ea⟩ := simplesText_whole ha (ne_nil_of_setsOf hane)
  obtain ⟨kb, hkb, hwb, eb⟩ := simplesText_whole hb (ne_nil_of_setsOf hbne)
  exact and_whole_never_union hka hkb hwa hwb hsp (ea ▸ hane) (eb ▸ hbne)

theorem C02_and_text_garbage_left {la lb : List Simple} {ta tb sp : List Char} (ha : SimplesText la ta)
    (hb : SimplesText lb tb) (hsp : Blanks1 sp) (hla : la ≠ []) (hlb : lb ≠ []) (hg : setsOf la = []) :
    altsOf (ta ++ (sp ++ tb)) = altsOf tb := by
  obtain ⟨ka, hka, hwa, ea⟩ := simplesText_whole ha hla
  obtain ⟨kb, hkb, hwb, _⟩ := simplesText_whole hb hlb
  exact and_whole_garbage_left hka hkb hwa hwb hsp (ea.trans hg)

theorem C02_and_text_garbage_right {la lb : List Simple} {ta tb sp : List Char} (ha : SimplesText la ta)
    (hb : SimplesText lb tb) (hsp : Blanks1 sp) (hla : la ≠ []) (hlb : lb ≠ []) (hg : setsOf lb = []) :
    altsOf (ta ++ (sp ++ tb)) = altsOf ta := by
  obtain ⟨ka, hka, hwa, _⟩ := simplesText_whole ha hla
  obtain ⟨kb, hkb, hwb, eb⟩ := simplesText_whole hb hlb
  exact and_whole_garbage_right hka hkb hwa hwb hsp (eb.trans hg)

theorem C02_and_text_comm {la lb : List Simple} {ta tb sp sp' : List Char} (ha : SimplesText la ta)
    (hb : SimplesText lb tb) (hsp : Blanks1 sp) (hsp' : Blanks1 sp') (hane : setsOf la ≠ []) (hbne : setsOf lb ≠ [])
    (v : Version) : satText (ta ++ (sp ++ tb)) v ↔ satText (tb ++ (sp' ++ ta)) v := by
  obtain ⟨ka, hka, hwa, ea⟩ := simplesText_whole ha (ne_nil_of_setsOf hane)
  obtain ⟨kb, hkb, hwb, _⟩ := simplesText_whole hb (ne_nil_of_setsOf hbne)
  exact and_whole_comm hka hkb hwa hwb hsp hsp' (ea ▸ hane) v

/-! `>=1` and `~2.x`, joined by two blanks -/
example : ∃ (la lb : List Simple) (ta tb : List Char), SimplesText la ta ∧ SimplesText lb tb ∧
    setsOf la ≠ [] ∧ setsOf lb ≠ [] ∧ ta ++ ([' ', ' '] ++ tb) = ">=1  ~2.x".toList := by
  simp only [String.reduceToList]
  refine ⟨[.prim .ge (.maj 1)], [.tilde (.maj 2)], ['>', '=', '1'], ['~', '2', '.', 'x'], ?_, ?_, ?_, ?_, rfl⟩
  · exact .one (.prim (op := .ge) (gap := []) (by decide) (Or.inl (.one (.num numText_one))))
  · exact .one (.tilde (gap := []) (by decide)
      (Or.inl (.two (A := ['2']) (B := ['x']) (.num ⟨by decide, by decide, by decide, by decide⟩) (.wild (Or.inl rfl)))))
  · intro h; have : (setsOf [.prim .ge (.maj 1)]).isEmpty = true := by rw [h]; rfl
    revert this; decide
  · intro h; have : (setsOf [.tilde (.maj 2)]).isEmpty = true := by rw [h]; rfl
    revert this; decide

/-! ## (5) the text `a b` without a grammar

`a`, `b` are lists of closed tokens: blank-free, bar-free, not starting with `-`, and not just an
operator / `~` / `~>` / `^` / nothing optionally followed by `v` (`hungry`: such a token takes the next
one as its version, in npm as well).  This is the domain on which the oracle applies the AND law. -/

/-- **C02_and_tokens**: for any two lists of closed tokens, each containing at least one token the
parser recognises as a valid comparator, and any blanks between them: a release version satisfies
`a b` exactly when it satisfies both; a prerelease version exactly when it lies within the bounds of
both and satisfies at least one -/
theorem C02_and_tokens {ka kb : List (List Char)} {ta tb sp : List Char} (ha : Tokens ka ta) (hb : Tokens kb tb)
    (hca : ∀ k ∈ ka, ClosedTok k) (hcb : ∀ k ∈ kb, ClosedTok k) (hsp : Blanks1 sp)
    (hane : setsOfToks ka ≠ []) (hbne : setsOfToks kb ≠ []) (v : Version) :
    (v.isPre = false → (satText (ta ++ (sp ++ tb)) v ↔ (satText ta v ∧ satText tb v))) ∧
    (v.isPre = true → (satText (ta ++ (sp ++ tb)) v ↔
      (withinText ta v ∧ withinText tb v ∧ (satText ta v ∨ satText tb v)))) :=
  and_whole ha hb (fun k hk => (hca k hk).whole) (fun k hk => (hcb k hk).whole) hsp hane hbne v

theorem C02_and_tokens_garbage_left {ka kb : List (List Char)} {ta tb sp : List Char} (ha : Tokens ka ta)
    (hb : Tokens kb tb) (hca : ∀ k ∈ ka, ClosedTok k) (hcb : ∀ k ∈ kb, ClosedTok k) (hsp : Blanks1 sp)
    (hg : setsOfToks ka = []) : altsOf (ta ++ (sp ++ tb)) = altsOf tb :=
  and_whole_garbage_left ha hb (fun k hk => (hca k hk).whole) (fun k hk => (hcb k hk).whole) hsp hg

theorem C02_and_tokens_comm {ka kb : List (List Char)} {ta tb sp sp' : List Char} (ha : Tokens ka ta)
    (hb : Tokens kb tb) (hca : ∀ k ∈ ka, ClosedTok k) (hcb : ∀ k ∈ kb, ClosedTok k) (hsp : Blanks1 sp)
    (hsp' : Blanks1 sp') (hane : setsOfToks ka ≠ []) (v : Version) :
    satText (ta ++ (sp ++ tb)) v ↔ satText (tb ++ (sp' ++ ta)) v :=
  and_whole_comm ha hb (fun k hk => (hca k hk).whole) (fun k hk => (hcb k hk).whole) hsp hsp' hane v

/-! `1.2.3.4` and `>=1.y` are closed tokens (garbage that begins like a comparator); `>=`, `~>v`, `v` are
hungry -/
example : ClosedTok "1.2.3.4".toList := by
  simp only [String.reduceToList]
  exact ⟨by unfold Solid; decide, by decide, nofun⟩
example : ClosedTok ">=1.y".toList := by
  simp only [String.reduceToList]
  exact ⟨by unfold Solid; decide, by decide, nofun⟩
example : hungry ">=".toList = true ∧ hungry "~>v".toList = true ∧ hungry "v".toList = true := by decide +kernel

end Semver.C02
