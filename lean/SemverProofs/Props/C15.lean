import SemverProofs.Props.C08
import SemverModel.Expr
/-!
# C15 — Range set algebra identities hold across arbitrary compositions

`denote` is the set meaning of an expression tree over well-formed leaves (the leaves are parsed
ranges, well-formed by `C06_parse_wf`).  `C15_eval_denote` says evaluation never panics,
every intermediate result is well-formed (hence a valid operand for further operations), and the
result's bounds membership is exactly `denote`, for trees of any depth.  Every identity in the
statement is then an identity of sets.
-/
namespace Semver.C15
open Semver C08

/-- the set of versions an expression tree denotes, on bounds membership -/
def denote : Expr → Version → Prop
  | .leaf r, v => Range.within r v = true
  | .isect a b, v => denote a v ∧ denote b v
  | .diff a b, v => denote a v ∧ ¬ denote b v

def leavesWF : Expr → Prop
  | .leaf r => r.WF
  | .isect a b => leavesWF a ∧ leavesWF b
  | .diff a b => leavesWF a ∧ leavesWF b

def optWF : Option Range → Prop
  | none => True
  | some r => r.WF

theorem optWF_of {res : Option Range} (h : ∀ r, res = some r → r.WF) : optWF res := by
  cases res with
  | none => trivial
  | some r => exact h r rfl

theorem C15_eval_denote (e : Expr) (h : leavesWF e) :
    ∃ res, e.eval = some res ∧ optWF res ∧ ∀ v, withinOpt res v = true ↔ denote e v := by
  induction e with
  | leaf r => exact ⟨some r, rfl, h, fun v => Iff.rfl⟩
  | isect a b iha ihb =>
    obtain ⟨ra, ea, wa, da⟩ := iha h.1
    obtain ⟨rb, eb, wb, db⟩ := ihb h.2
    simp only [Expr.eval, ea, eb, denote, ← da, ← db]
    -- on two ranges `Range.intersect_spec` is the claim; an empty operand makes the result empty
    cases ra with
    | none => exact ⟨none, by cases rb <;> rfl, trivial, fun v => ⟨nofun, fun h => h.1⟩⟩
    | some x =>
      cases rb with
      | none => exact ⟨none, rfl, trivial, fun v => ⟨nofun, fun h => h.2⟩⟩
      | some y => exact ⟨_, rfl, optWF_of (Range.intersect_spec wa wb).1, (Range.intersect_spec wa wb).2⟩
  | diff a b iha ihb =>
    obtain ⟨ra, ea, wa, da⟩ := iha h.1
    obtain ⟨rb, eb, wb, db⟩ := ihb h.2
    simp only [Expr.eval, ea, eb, denote, ← da, ← db]
    -- likewise `Range.difference_spec`; removing nothing leaves the left operand, an empty one stays empty
    cases ra with
    | none => exact ⟨none, by cases rb <;> rfl, trivial, fun v => ⟨nofun, fun h => h.1⟩⟩
    | some x =>
      cases rb with
      | none => exact ⟨some x, rfl, wa, fun v => ⟨fun h => ⟨h, nofun⟩, fun h => h.1⟩⟩
      | some y =>
        obtain ⟨res, e, hwf, hsem⟩ := Range.difference_spec wa wb
        exact ⟨res, e, optWF_of hwf, hsem⟩

/-- evaluation never panics (no `unwrap()`/`unreachable!` is reached, whatever the depth) -/
theorem C15_no_panic (e : Expr) (h : leavesWF e) : e.eval ≠ none := by
  obtain ⟨res, hr, _⟩ := C15_eval_denote e h
  rw [hr]; simp

/-- results remain valid operands for further operations -/
theorem C15_reusable (e : Expr) (h : leavesWF e) (r : Range) (hr : e.eval = some (some r)) :
    leavesWF (.leaf r) := by
  obtain ⟨res, hr', hwf, _⟩ := C15_eval_denote e h
  rw [hr] at hr'; cases hr'
  exact hwf

theorem same_result {e1 e2 : Expr} (h1 : leavesWF e1) (h2 : leavesWF e2)
    (hd : ∀ v, denote e1 v ↔ denote e2 v) :
    ∃ r1 r2, e1.eval = some r1 ∧ e2.eval = some r2 ∧ ∀ v, withinOpt r1 v = withinOpt r2 v := by
  obtain ⟨r1, e1', _, d1⟩ := C15_eval_denote e1 h1
  obtain ⟨r2, e2', _, d2⟩ := C15_eval_denote e2 h2
  refine ⟨r1, r2, e1', e2', ?_⟩
  intro v
  rw [Bool.eq_iff_iff, d1, d2, hd]

theorem empty_result {e : Expr} (h : leavesWF e) (hd : ∀ v, ¬ denote e v) :
    ∃ r, e.eval = some r ∧ ∀ v, withinOpt r v = false := by
  obtain ⟨r, e', _, d⟩ := C15_eval_denote e h
  refine ⟨r, e', ?_⟩
  intro v
  exact Bool.eq_false_iff.2 fun hw => hd v ((d v).mp hw)

theorem C15_comm (A B : Expr) (hA : leavesWF A) (hB : leavesWF B) :
    ∃ r1 r2, (Expr.isect A B).eval = some r1 ∧ (Expr.isect B A).eval = some r2 ∧
      ∀ v, withinOpt r1 v = withinOpt r2 v :=
  same_result (e1 := .isect A B) (e2 := .isect B A) ⟨hA, hB⟩ ⟨hB, hA⟩ (by intro v; simp [denote, and_comm])

theorem C15_assoc (A B C : Expr) (hA : leavesWF A) (hB : leavesWF B) (hC : leavesWF C) :
    ∃ r1 r2, (Expr.isect (.isect A B) C).eval = some r1 ∧ (Expr.isect A (.isect B C)).eval = some r2 ∧
      ∀ v, withinOpt r1 v = withinOpt r2 v :=
  same_result (e1 := .isect (.isect A B) C) (e2 := .isect A (.isect B C)) ⟨⟨hA, hB⟩, hC⟩ ⟨hA, hB, hC⟩
    (by intro v; simp [denote, and_assoc])

theorem C15_idem (A : Expr) (hA : leavesWF A) :
    ∃ r1 r2, (Expr.isect A A).eval = some r1 ∧ A.eval = some r2 ∧ ∀ v, withinOpt r1 v = withinOpt r2 v :=
  same_result (e1 := .isect A A) (e2 := A) ⟨hA, hA⟩ hA (by intro v; simp [denote])

theorem C15_self_diff_empty (A : Expr) (hA : leavesWF A) :
    ∃ r, (Expr.diff A A).eval = some r ∧ ∀ v, withinOpt r v = false :=
  empty_result (e := .diff A A) ⟨hA, hA⟩ (by intro v; simp [denote])

theorem C15_diff_inter_empty (A B : Expr) (hA : leavesWF A) (hB : leavesWF B) :
    ∃ r, (Expr.isect (.diff A B) B).eval = some r ∧ ∀ v, withinOpt r v = false :=
  empty_result (e := .isect (.diff A B) B) ⟨⟨hA, hB⟩, hB⟩ (by intro v; simp [denote])

/-- A is the disjoint union of `A ∩ B` and `A \ B` -/
theorem C15_partition (A B : Expr) (hA : leavesWF A) (hB : leavesWF B) :
    ∃ ra ri rd, A.eval = some ra ∧ (Expr.isect A B).eval = some ri ∧ (Expr.diff A B).eval = some rd ∧
      ∀ v, (withinOpt ra v = true ↔ (withinOpt ri v = true ∨ withinOpt rd v = true)) ∧
        ¬ (withinOpt ri v = true ∧ withinOpt rd v = true) := by
  obtain ⟨ra, ea, _, da⟩ := C15_eval_denote A hA
  obtain ⟨ri, ei, _, di⟩ := C15_eval_denote (.isect A B) ⟨hA, hB⟩
  obtain ⟨rd, ed, _, dd⟩ := C15_eval_denote (.diff A B) ⟨hA, hB⟩
  refine ⟨ra, ri, rd, ea, ei, ed, ?_⟩
  intro v
  rw [da, di, dd]
  simp only [denote]
  grind

theorem C15_double_diff (A B : Expr) (hA : leavesWF A) (hB : leavesWF B) :
    ∃ r1 r2, (Expr.diff A (.diff A B)).eval = some r1 ∧ (Expr.isect A B).eval = some r2 ∧
      ∀ v, withinOpt r1 v = withinOpt r2 v :=
  same_result (e1 := .diff A (.diff A B)) (e2 := .isect A B) ⟨hA, hA, hB⟩ ⟨hA, hB⟩
    (by intro v; simp only [denote]; grind)

end Semver.C15
