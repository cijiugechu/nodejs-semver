import SemverProofs.Props.C07
/-!
# C08 — difference computes exactly the set difference of two ranges

For all well-formed A and B and every version v: v lies within the bounds of `A.difference(B)`
exactly when it lies within A's bounds and outside B's — for every alternative of B; a release
version satisfies the result exactly when it satisfies A and not B.  `None` only when nothing of A
remains; the result never contains a version of B; together with `A.intersect(B)` it partitions
A.  The operation never panics on well-formed operands and its result is well-formed.
-/
namespace Semver.C08
open Semver

/-- no panic, and the result is decided -/
theorem C08_total {A B : Range} (hA : A.WF) (hB : B.WF) : ∃ res, Range.difference A B = some res := by
  obtain ⟨res, h, _⟩ := Range.difference_spec hA hB
  exact ⟨res, h⟩

theorem withinOpt_difference {A B : Range} (hA : A.WF) (hB : B.WF) {res : Option Range}
    (h : Range.difference A B = some res) (v : Version) :
    withinOpt res v = true ↔ (Range.within A v = true ∧ ¬ Range.within B v = true) := by
  obtain ⟨res', e, _, hsem⟩ := Range.difference_spec hA hB
  rw [h] at e
  cases e
  exact hsem v

theorem C08_within {A B R : Range} (hA : A.WF) (hB : B.WF) (h : Range.difference A B = some (some R))
    (v : Version) :
    Range.within R v = true ↔ (Range.within A v = true ∧ ¬ Range.within B v = true) :=
  withinOpt_difference hA hB h v

theorem C08_none {A B : Range} (hA : A.WF) (hB : B.WF) (h : Range.difference A B = some none)
    (v : Version) : Range.within A v = true → Range.within B v = true := by
  intro hv
  have := withinOpt_difference hA hB h v
  exact Classical.not_not.mp (fun hn => Bool.false_ne_true (this.mpr ⟨hv, hn⟩))

theorem C08_closed {A B R : Range} (hA : A.WF) (hB : B.WF) (h : Range.difference A B = some (some R)) :
    R.WF := by
  obtain ⟨res, e, hwf, _⟩ := Range.difference_spec hA hB
  rw [h] at e
  cases e
  exact hwf R rfl

/-- for every alternative of B, not just one -/
theorem C08_every_alternative {A B R : Range} (hA : A.WF) (hB : B.WF)
    (h : Range.difference A B = some (some R)) (v : Version) (hv : Range.within R v = true) :
    ∀ b ∈ B, ¬ b.within v = true := by
  have := (C08_within hA hB h v).mp hv
  intro b hb hbv
  exact this.2 ((Range.within_iff B v).mpr ⟨b, hb, hbv⟩)

/-- release versions: satisfied exactly when A is and B is not -/
theorem C08_release {A B R : Range} (hA : A.WF) (hB : B.WF) (h : Range.difference A B = some (some R))
    {v : Version} (hv : v.isPre = false) :
    Range.satisfies R v = true ↔ (Range.satisfies A v = true ∧ ¬ Range.satisfies B v = true) := by
  rw [Range.satisfies_release R hv, Range.satisfies_release A hv, Range.satisfies_release B hv]
  exact C08_within hA hB h v

theorem C08_none_release {A B : Range} (hA : A.WF) (hB : B.WF) (h : Range.difference A B = some none)
    {v : Version} (hv : v.isPre = false) : Range.satisfies A v = true → Range.satisfies B v = true := by
  rw [Range.satisfies_release A hv, Range.satisfies_release B hv]
  exact C08_none hA hB h v

theorem C08_disjoint_from_B {A B R : Range} (hA : A.WF) (hB : B.WF)
    (h : Range.difference A B = some (some R)) (v : Version) :
    ¬ (Range.within R v = true ∧ Range.within B v = true) := by
  intro ⟨h1, h2⟩
  exact ((C08_within hA hB h v).mp h1).2 h2

/-- A is the disjoint union of `A ∩ B` and `A \ B` -/
theorem C08_partition {A B : Range} (hA : A.WF) (hB : B.WF) {res : Option Range}
    (h : Range.difference A B = some res) (v : Version) :
    (Range.within A v = true ↔ (withinOpt (Range.intersect A B) v = true ∨ withinOpt res v = true)) ∧
    ¬ (withinOpt (Range.intersect A B) v = true ∧ withinOpt res v = true) := by
  rw [(Range.intersect_spec hA hB).2 v, withinOpt_difference hA hB h]
  grind

end Semver.C08
