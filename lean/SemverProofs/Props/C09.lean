import SemverProofs.Props.C07
/-!
# C09 — allows_any is true exactly when the two ranges overlap
-/
namespace Semver.C09
open Semver Pred Bound

theorem C09_eq_intersect {A B : Range} (hA : A.WF) (hB : B.WF) :
    Range.allowsAny A B = (Range.intersect A B).isSome :=
  Range.allowsAny_eq_intersect hA hB

theorem C09_symm {A B : Range} (hA : A.WF) (hB : B.WF) : Range.allowsAny A B = Range.allowsAny B A :=
  Range.allowsAny_symm hA hB

/-- false ⇒ no version lies within (hence none satisfies) both -/
theorem C09_sound {A B : Range} (hA : A.WF) (hB : B.WF) (h : Range.allowsAny A B = false) (v : Version) :
    ¬ (Range.within A v = true ∧ Range.within B v = true) := by
  rw [C09_eq_intersect hA hB] at h
  cases hi : Range.intersect A B with
  | none => exact C07.C07_none hA hB hi v
  | some R => rw [hi] at h; cases h

theorem C09_sound_sat {A B : Range} (hA : A.WF) (hB : B.WF) (h : Range.allowsAny A B = false) (v : Version) :
    ¬ (Range.satisfies A v = true ∧ Range.satisfies B v = true) :=
  fun ⟨h1, h2⟩ => C09_sound hA hB h v ⟨Range.within_of_satisfies h1, Range.within_of_satisfies h2⟩

/-- some version within (or satisfying) both ⇒ true -/
theorem C09_complete {A B : Range} (hA : A.WF) (hB : B.WF) (v : Version)
    (h : Range.within A v = true ∧ Range.within B v = true) : Range.allowsAny A B = true := by
  cases hany : Range.allowsAny A B with
  | true => rfl
  | false => exact absurd h (C09_sound hA hB hany v)

theorem C09_complete_sat {A B : Range} (hA : A.WF) (hB : B.WF) (v : Version)
    (h : Range.satisfies A v = true ∧ Range.satisfies B v = true) : Range.allowsAny A B = true :=
  C09_complete hA hB v ⟨Range.within_of_satisfies h.1, Range.within_of_satisfies h.2⟩

def below (x : Version) : BoundSet := ⟨up (exc x), lo unb⟩      -- `<x`
def atMost (x : Version) : BoundSet := ⟨up (inc x), lo unb⟩     -- `<=x`
def above (x : Version) : BoundSet := ⟨up unb, lo (exc x)⟩      -- `>x`
def atLeast (x : Version) : BoundSet := ⟨up unb, lo (inc x)⟩    -- `>=x`

/-- `<x` and `>x`, `<x` and `>=x`, `<=x` and `>x` do not overlap; `<=x` and `>=x` do -/
theorem C09_touching (x : Version) :
    (below x).allowsAny (above x) = false ∧ (above x).allowsAny (below x) = false ∧
    (below x).allowsAny (atLeast x) = false ∧ (atLeast x).allowsAny (below x) = false ∧
    (atMost x).allowsAny (above x) = false ∧ (above x).allowsAny (atMost x) = false ∧
    (atMost x).allowsAny (atLeast x) = true ∧ (atLeast x).allowsAny (atMost x) = true := by
  simp only [below, above, atLeast, atMost, Bool.eq_false_iff, ne_eq, allowsAny_mk, Pred.loCut, Pred.upCut,
    Cut.lt_def, Cut.lt, Side.rank]
  grind

end Semver.C09
