import SemverProofs.Lemmas.Gate
/-!
# C07 — intersect computes exactly the set intersection of two ranges

For all well-formed ranges A and B (every range produced by `Range::parse`, `intersect` or
`difference` is well-formed: `C06_parse_wf`, `C07_closed`, `C08_closed`) and every version v: v lies within the bounds of
`A.intersect(B)` exactly when it lies within the bounds of both; for release versions the result is
satisfied exactly when both are; a prerelease satisfying both satisfies the result, one satisfying
the result lies within both and satisfies at least one.  `None` only if no version lies within
both.  Commutative and idempotent on admitted versions.  The result is again well-formed.
-/
namespace Semver.C07
open Semver

theorem C07_within {A B R : Range} (hA : A.WF) (hB : B.WF) (h : Range.intersect A B = some R) (v : Version) :
    Range.within R v = true ↔ (Range.within A v = true ∧ Range.within B v = true) := by
  have := (Range.intersect_spec hA hB).2 v
  rwa [h] at this

theorem C07_none {A B : Range} (hA : A.WF) (hB : B.WF) (h : Range.intersect A B = none) (v : Version) :
    ¬ (Range.within A v = true ∧ Range.within B v = true) := by
  have := (Range.intersect_spec hA hB).2 v
  rw [h] at this
  exact fun hv => Bool.false_ne_true (this.mpr hv)

theorem C07_closed {A B R : Range} (hA : A.WF) (hB : B.WF) (h : Range.intersect A B = some R) : R.WF :=
  (Range.intersect_spec hA hB).1 R h

theorem sat_result {A B R : Range} (hA : A.WF) (hB : B.WF) (h : Range.intersect A B = some R) (v : Version) :
    Range.satisfies R v = true ↔
      ∃ x ∈ A, ∃ y ∈ B, x.within v = true ∧ y.within v = true ∧
        (v.isPre = false ∨ x.satisfies v = true ∨ y.satisfies v = true) := by
  obtain ⟨rfl, _⟩ := Range.intersect_eq_some.mp h
  rw [Range.satisfies_iff]
  constructor
  · intro ⟨r, hr, hv⟩
    obtain ⟨x, hx, y, hy, hi⟩ := mem_intersectSets.mp hr
    exact ⟨x, hx, y, hy, (intersect_satisfies (hA.2 x hx) (hB.2 y hy) hi v).mp hv⟩
  · intro ⟨x, hx, y, hy, hv⟩
    cases hi : x.intersect y with
    | none => exact absurd ⟨hv.1, hv.2.1⟩ (intersect_none (hA.2 x hx) (hB.2 y hy) hi v)
    | some r =>
      exact ⟨r, mem_intersectSets.mpr ⟨x, hx, y, hy, hi⟩,
        (intersect_satisfies (hA.2 x hx) (hB.2 y hy) hi v).mpr hv⟩

/-- for release versions the result is satisfied exactly when both operands are -/
theorem C07_release {A B R : Range} (hA : A.WF) (hB : B.WF) (h : Range.intersect A B = some R)
    {v : Version} (hv : v.isPre = false) :
    Range.satisfies R v = true ↔ (Range.satisfies A v = true ∧ Range.satisfies B v = true) := by
  rw [Range.satisfies_release R hv, Range.satisfies_release A hv, Range.satisfies_release B hv]
  exact C07_within hA hB h v

/-- a prerelease satisfying both operands satisfies the result -/
theorem C07_pre_in {A B R : Range} (hA : A.WF) (hB : B.WF) (h : Range.intersect A B = some R)
    {v : Version} (h1 : Range.satisfies A v = true) (h2 : Range.satisfies B v = true) :
    Range.satisfies R v = true := by
  rw [sat_result hA hB h]
  rw [Range.satisfies_iff] at h1 h2
  obtain ⟨x, hx, hxv⟩ := h1
  obtain ⟨y, hy, hyv⟩ := h2
  exact ⟨x, hx, y, hy, ((satisfies_iff x v).mp hxv).1, ((satisfies_iff y v).mp hyv).1, Or.inr (Or.inl hxv)⟩

/-- a version satisfying the result lies within both and satisfies at least one -/
theorem C07_pre_out {A B R : Range} (hA : A.WF) (hB : B.WF) (h : Range.intersect A B = some R)
    {v : Version} (hv : v.isPre = true) (hr : Range.satisfies R v = true) :
    Range.within A v = true ∧ Range.within B v = true ∧
      (Range.satisfies A v = true ∨ Range.satisfies B v = true) := by
  rw [sat_result hA hB h] at hr
  obtain ⟨x, hx, y, hy, h1, h2, h3⟩ := hr
  refine ⟨(Range.within_iff A v).mpr ⟨x, hx, h1⟩, (Range.within_iff B v).mpr ⟨y, hy, h2⟩, ?_⟩
  rcases h3 with h3 | h3 | h3
  · rw [hv] at h3; cases h3
  · exact Or.inl ((Range.satisfies_iff A v).mpr ⟨x, hx, h3⟩)
  · exact Or.inr ((Range.satisfies_iff B v).mpr ⟨y, hy, h3⟩)

/-- the result is `None` only if no version satisfies both -/
theorem C07_none_sat {A B : Range} (hA : A.WF) (hB : B.WF) (h : Range.intersect A B = none) (v : Version) :
    ¬ (Range.satisfies A v = true ∧ Range.satisfies B v = true) :=
  fun ⟨h1, h2⟩ => C07_none hA hB h v ⟨Range.within_of_satisfies h1, Range.within_of_satisfies h2⟩

/-- commutative on admitted versions (bounds membership and satisfaction) -/
theorem C07_comm {A B : Range} (hA : A.WF) (hB : B.WF) :
    (Range.intersect A B).isSome = (Range.intersect B A).isSome ∧
    ∀ R R', Range.intersect A B = some R → Range.intersect B A = some R' →
      ∀ v, (Range.within R v = Range.within R' v) ∧ (Range.satisfies R v = Range.satisfies R' v) := by
  refine ⟨?_, fun R R' h h' v => ⟨?_, ?_⟩⟩
  · rw [← Range.allowsAny_eq_intersect hA hB, ← Range.allowsAny_eq_intersect hB hA]
    exact Range.allowsAny_symm hA hB
  · rw [Bool.eq_iff_iff, C07_within hA hB h, C07_within hB hA h', and_comm]
  · rw [Bool.eq_iff_iff, sat_result hA hB h, sat_result hB hA h']
    constructor <;> rintro ⟨x, hx, y, hy, h1, h2, h3⟩ <;> exact ⟨y, hy, x, hx, h2, h1, by grind⟩

/-- idempotent on admitted versions -/
theorem C07_idem {A : Range} (hA : A.WF) :
    ∃ R, Range.intersect A A = some R ∧
      ∀ v, Range.within R v = Range.within A v ∧ Range.satisfies R v = Range.satisfies A v := by
  cases h : Range.intersect A A with
  | none =>
    -- a well-formed range is never disjoint from itself by the crate's own rule
    have hany := Range.allowsAll_imp_allowsAny hA hA (Range.allowsAll_refl hA)
    rw [Range.allowsAny_eq_intersect hA hA, h] at hany
    cases hany
  | some R =>
    refine ⟨R, rfl, fun v => ⟨?_, ?_⟩⟩
    · rw [Bool.eq_iff_iff, C07_within hA hA h, and_self]
    · rw [Bool.eq_iff_iff, sat_result hA hA h, Range.satisfies_iff]
      constructor
      · rintro ⟨x, hx, y, hy, h1, h2, h3 | h3 | h3⟩
        · exact ⟨x, hx, (satisfies_iff x v).mpr ⟨h1, Or.inl h3⟩⟩
        · exact ⟨x, hx, h3⟩
        · exact ⟨y, hy, h3⟩
      · rintro ⟨x, hx, hxv⟩
        have := ((satisfies_iff x v).mp hxv).1
        exact ⟨x, hx, x, hx, this, this, Or.inr (Or.inl hxv)⟩

/-! ## Non-vacuity: a well-formed interval -/

example : BoundSet.WF ⟨.up (.exc (Version.mk3 2 0 0)), .lo (.inc (Version.mk3 1 0 0))⟩ :=
  ⟨_, _, rfl, by unfold Pred.valid; decide, by unfold Pred.valid; decide,
    by show Version.mk3 1 0 0 < Version.mk3 2 0 0; decide⟩

end Semver.C07
