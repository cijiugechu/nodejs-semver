import SemverProofs.Props.C04
import SemverSpec.NpmDiff
/-!
# C16 — Version::diff names the release-type difference, symmetrically

On an ordered pair the crate's chain of tests is node-semver's documented table (`diff_of_lt`); the other
order follows from the symmetry of the crate's own tests.
-/
namespace Semver.C16
open Semver

theorem C16_symm (a b : Version) : a.diff b = b.diff a := by
  unfold Version.diff
  -- `high`/`low` swap with the arguments; the tests `self.x != other.x` have to be turned round
  rw [cmp_swap a b, bne_comm (a := b.major), bne_comm (a := b.minor), bne_comm (a := b.patch)]
  cases cmpVersion a b <;> rfl

theorem diff_of_lt {a b : Version} (h : cmpVersion a b = .lt) :
    a.diff b = some (Spec.diffOrdered a b) := by
  have hasTag_eq : ∀ v, Spec.hasTag v = v.isPre := fun _ => rfl
  unfold Version.diff Spec.diffOrdered
  simp only [h, reduceCtorEq, if_false, hasTag_eq]
  -- the first test of both chains: is `low` a prerelease and `high` a release?
  cases a.isPre && !b.isPre
  · -- no: the first differing field decides
    simp only [Bool.false_eq_true, if_false, Spec.firstDiffering, bne_iff_ne, ne_eq]
    by_cases h1 : a.major = b.major
    · by_cases h2 : a.minor = b.minor
      · by_cases h3 : a.patch = b.patch
        · simp only [h1, h2, h3, not_true_eq_false, if_false]
        · simp only [h1, h2, h3, not_true_eq_false, not_false_eq_true, if_false, if_true]
          cases b.isPre <;> rfl
      · simp only [h1, h2, not_true_eq_false, not_false_eq_true, if_false, if_true]
        cases b.isPre <;> rfl
    · simp only [h1, not_false_eq_true, if_true]
      cases b.isPre <;> rfl
  · -- yes.  `and_comm`: the crate asks `patch == 0 && minor == 0`, the table `minor = 0 ∧ patch = 0`
    simp only [if_true, beq_iff_eq, bne_iff_ne, Bool.and_eq_true, and_comm, apply_ite some]

/-- the crate's `diff` is node-semver's documented release type -/
theorem C16_is_npm (a b : Version) : a.diff b = Spec.npmDiff a b := by
  rw [Spec.npmDiff, ← C04.C04_model_is_spec]
  cases h : cmpVersion a b
  · exact diff_of_lt h
  · simp only [Version.diff, h, if_true]
  · rw [C16_symm]
    exact diff_of_lt ((cmp_gt_iff a b).mp h)

theorem C16_none_iff_equal (a b : Version) : a.diff b = none ↔ cmpVersion a b = .eq := by
  rw [C16_is_npm, Spec.npmDiff, ← C04.C04_model_is_spec]
  cases cmpVersion a b <;> simp

theorem C16_build_ignored (a b : Version) (x y : List Ident) :
    ({ a with build := x } : Version).diff { b with build := y } = a.diff b := by
  unfold Version.diff
  rw [C04.C04_build_ignored]
  cases cmpVersion a b <;> rfl

/-- the answer is read from the documented table: a few named instances (non-vacuity) -/
example : (Version.mk3 1 0 0).diff ⟨1, 0, 0, [.num 1], []⟩ = some .major := by decide +kernel
example : (Version.mk3 1 1 1).diff ⟨1, 0, 1, [.num 1], []⟩ = some .patch := by decide +kernel
example : (Version.mk3 1 2 0).diff ⟨1, 1, 0, [.num 1], []⟩ = some .minor := by decide +kernel
example : (Version.mk3 1 2 3).diff ⟨2, 0, 0, [.alpha "rc".toList], []⟩ = some .preMajor := by decide +kernel
example : (Version.mk4 1 2 3 0).diff (Version.mk4 1 2 3 1) = some .preRelease := by decide +kernel

end Semver.C16
