import SemverProofs.Lemmas.VersionPreorder
/-!
# C04 — Version precedence is the SemVer total order; Eq, Ord and Hash agree

Statement (properties.jsonl): comparing any two versions yields SemVer 2.0.0 §11 precedence; the
relation is a total order (reflexive, antisymmetric, transitive, total), `==` holds exactly when
the comparison is Equal, equal versions hash equally, and sorting / min / max of any list is
consistent with it.  Build metadata is ignored.

All theorems quantify over arbitrary `Version`s: components are arbitrary naturals, identifier
lists have any length, identifier strings are arbitrary.
-/
namespace Semver.C04
open Semver Std

/-- `Ord for Version` is `Spec.prec`, the decision procedure written from SemVer §11; `C04_spec_lt` and
`C04_spec_eq` tie that procedure to the §11 relations -/
theorem C04_model_is_spec (a b : Version) : cmpVersion a b = Spec.prec a b := (prec_eq a b).symm

theorem C04_lt_iff_spec (a b : Version) : cmpVersion a b = .lt ↔ Spec.VLt a b := cmpVersion_lt_iff

theorem C04_eq_iff_spec (a b : Version) : cmpVersion a b = .eq ↔ Spec.VEq a b := cmpVersion_eq_iff

theorem C04_gt_iff_spec (a b : Version) : cmpVersion a b = .gt ↔ Spec.VLt b a := by
  rw [cmp_gt_iff, lt_def, C04_lt_iff_spec]

/-! The specification's decision procedures decide its §11 relations: each equals the model's comparator,
which inherits the lemmas of core's lexicographic combinators. -/

theorem strCmp_lt_iff {s t} : Spec.strCmp s t = .lt ↔ Spec.StrLt s t := by
  rw [strCmp_eq, compareLex_toNat_lt_iff]

theorem strCmp_eq_iff {s t} : Spec.strCmp s t = .eq ↔ s = t := by
  rw [strCmp_eq, LawfulEqCmp.compare_eq_iff_eq]

theorem idCmp_lt_iff {a b} : Spec.idCmp a b = .lt ↔ Spec.IdLt a b := by
  rw [idCmp_eq, cmpIdent_lt_iff]

theorem idCmp_eq_iff {a b} : Spec.idCmp a b = .eq ↔ a = b := by
  rw [idCmp_eq, LawfulEqCmp.compare_eq_iff_eq]

theorem preCmp_lt_iff {p q} : Spec.preCmp p q = .lt ↔ Spec.PreLt p q := by
  rw [preCmp_eq, compareLex_cmpIdent_lt_iff]

theorem preCmp_eq_iff {p q} : Spec.preCmp p q = .eq ↔ p = q := by
  rw [preCmp_eq, LawfulEqCmp.compare_eq_iff_eq]

theorem C04_spec_lt (a b : Version) : Spec.prec a b = .lt ↔ Spec.VLt a b := by
  rw [← C04_model_is_spec, C04_lt_iff_spec]

theorem C04_spec_eq (a b : Version) : Spec.prec a b = .eq ↔ Spec.VEq a b := by
  rw [← C04_model_is_spec, C04_eq_iff_spec]

theorem C04_refl (a : Version) : cmpVersion a a = .eq := ReflCmp.compare_self

theorem C04_antisymm (a b : Version) (h1 : a ≤ b) (h2 : b ≤ a) : Spec.VEq a b :=
  (C04_eq_iff_spec a b).mp ((cmp_eq_iff a b).mpr ⟨h1, h2⟩)

theorem C04_trans (a b c : Version) (h1 : a ≤ b) (h2 : b ≤ c) : a ≤ c :=
  TransCmp.isLE_trans (cmp := cmpVersion) h1 h2

theorem C04_trans_lt (a b c : Version) (h1 : a < b) (h2 : b < c) : a < c :=
  TransCmp.lt_trans (cmp := cmpVersion) h1 h2

theorem C04_total (a b : Version) : a ≤ b ∨ b ≤ a := Std.le_total

theorem C04_oriented (a b : Version) : cmpVersion b a = (cmpVersion a b).swap := cmp_swap a b

theorem C04_trichotomy (a b : Version) :
    (a < b ∧ ¬ Spec.VEq a b ∧ ¬ b < a) ∨ (¬ a < b ∧ Spec.VEq a b ∧ ¬ b < a) ∨
    (¬ a < b ∧ ¬ Spec.VEq a b ∧ b < a) := by
  rw [← C04_eq_iff_spec, lt_def, lt_def, cmp_swap a b]
  cases cmpVersion a b <;> simp

theorem C04_eq_iff_cmp_eq (a b : Version) : a.beq b = true ↔ cmpVersion a b = .eq := by
  rw [beq_iff, cmp_eq_iff]

/-- what `Hash` is fed determines the precedence class and nothing else -/
theorem hashKey_eq_iff (a b : Version) : a.hashKey = b.hashKey ↔ cmpVersion a b = .eq := by
  simp only [cmpVersion_eq_iff, Spec.VEq, Version.hashKey, Prod.mk.injEq]

theorem C04_hash_coherent (a b : Version) (h : a.beq b = true) : a.hashKey = b.hashKey :=
  (hashKey_eq_iff a b).mpr ((C04_eq_iff_cmp_eq a b).mp h)

theorem C04_build_ignored (a b : Version) (x y : List Ident) :
    cmpVersion { a with build := x } { b with build := y } = cmpVersion a b := by
  simp [cmpVersion_def]

theorem C04_build_ignored_eq (a b : Version) (x y : List Ident) :
    ({ a with build := x } : Version).beq { b with build := y } = a.beq b := by
  simp [Version.beq]

/-- a fold whose step returns one of its two arguments, an `R`-upper bound of both, ends on an
`R`-greatest element of the list -/
theorem foldl_extreme {α} {R : α → α → Prop} (refl : ∀ a, R a a)
    (trans : ∀ {a b c}, R a b → R b c → R a c) {f : α → α → α}
    (hf : ∀ m y, (f m y = m ∨ f m y = y) ∧ R m (f m y) ∧ R y (f m y)) (l : List α) (x : α) :
    l.foldl f x ∈ x :: l ∧ ∀ y ∈ x :: l, R y (l.foldl f x) := by
  induction l generalizing x with
  | nil => simpa using refl x
  | cons z l ih =>
    obtain ⟨hmem, hle⟩ := ih (f x z)
    obtain ⟨hf, hx, hz⟩ := hf x z
    simp only [List.foldl_cons, List.mem_cons, forall_eq_or_imp] at hmem hle ⊢
    refine ⟨?_, trans hx hle.1, trans hz hle.1, hle.2⟩
    rcases hmem with h | h
    · rw [h]
      exact hf.imp_right .inl
    · exact .inr (.inr h)

theorem maxBy_spec {α} {cmp : α → α → Ordering} [TransCmp cmp] (l : List α) :
    (maxBy cmp l = none ↔ l = []) ∧
    ∀ m, maxBy cmp l = some m → m ∈ l ∧ ∀ y ∈ l, (cmp y m).isLE := by
  cases l with
  | nil => simp [maxBy]
  | cons x l =>
    refine ⟨by simp [maxBy], ?_⟩
    rintro _ ⟨rfl⟩
    refine foldl_extreme (R := fun a b => (cmp a b).isLE) (fun _ => ReflCmp.isLE_rfl)
      TransCmp.isLE_trans (fun m y => ?_) l x
    by_cases h : cmp m y = .gt
    · rw [if_pos h]
      exact ⟨.inl rfl, ReflCmp.isLE_rfl, Ordering.isLE_of_eq_lt (OrientedCmp.lt_of_gt h)⟩
    · rw [if_neg h]
      exact ⟨.inr rfl, Ordering.ne_gt_iff_isLE.mp h, ReflCmp.isLE_rfl⟩

theorem minBy_spec {α} {cmp : α → α → Ordering} [TransCmp cmp] (l : List α) :
    (minBy cmp l = none ↔ l = []) ∧
    ∀ m, minBy cmp l = some m → m ∈ l ∧ ∀ y ∈ l, (cmp m y).isLE := by
  cases l with
  | nil => simp [minBy]
  | cons x l =>
    refine ⟨by simp [minBy], ?_⟩
    rintro _ ⟨rfl⟩
    refine foldl_extreme (R := fun a b => (cmp b a).isLE) (fun _ => ReflCmp.isLE_rfl)
      (fun h1 h2 => TransCmp.isLE_trans h2 h1) (fun m y => ?_) l x
    by_cases h : cmp m y = .gt
    · rw [if_pos h]
      exact ⟨.inr rfl, Ordering.isLE_of_eq_lt (OrientedCmp.lt_of_gt h), ReflCmp.isLE_rfl⟩
    · rw [if_neg h]
      exact ⟨.inl rfl, ReflCmp.isLE_rfl, Ordering.ne_gt_iff_isLE.mp h⟩

theorem C04_max (l : List Version) :
    (maxBy cmpVersion l = none ↔ l = []) ∧
    ∀ m, maxBy cmpVersion l = some m → m ∈ l ∧ ∀ y ∈ l, y ≤ m :=
  maxBy_spec l

theorem C04_min (l : List Version) :
    (minBy cmpVersion l = none ↔ l = []) ∧
    ∀ m, minBy cmpVersion l = some m → m ∈ l ∧ ∀ y ∈ l, m ≤ y :=
  minBy_spec l

theorem leB_iff (a b : Version) : Version.leB a b = true ↔ a ≤ b := vle_iff a b

theorem leB_trans (a b c : Version) (h1 : Version.leB a b = true) (h2 : Version.leB b c = true) :
    Version.leB a c = true := by
  rw [leB_iff] at *; exact C04_trans a b c h1 h2

theorem leB_total (a b : Version) : (Version.leB a b || Version.leB b a) = true := by
  rw [Bool.or_eq_true, leB_iff, leB_iff]; exact C04_total a b

theorem C04_sort_sorted (l : List Version) : (sortVersions l).Pairwise (· ≤ ·) := by
  have := List.pairwise_mergeSort leB_trans leB_total l
  exact this.imp (fun h => (leB_iff _ _).mp h)

theorem C04_sort_perm (l : List Version) : (sortVersions l).Perm l := List.mergeSort_perm l _

/-- stability: elements that are precedence-equal or already in order keep their order (versions
differing only in build metadata stay as they were) -/
theorem C04_sort_stable (l : List Version) (a b : Version) (hab : a ≤ b) (h : [a, b].Sublist l) :
    [a, b].Sublist (sortVersions l) :=
  List.pair_sublist_mergeSort leB_trans leB_total ((leB_iff a b).mpr hab) h

theorem C04_sort_idem (l : List Version) : sortVersions (sortVersions l) = sortVersions l :=
  List.mergeSort_of_pairwise ((C04_sort_sorted l).imp (fun h => (leB_iff _ _).mpr h))

/-- the fields precedence looks at -/
abbrev Key := Nat × Nat × Nat × List Ident

def keyVersion (k : Key) : Version := ⟨k.1, k.2.1, k.2.2.1, k.2.2.2, []⟩
def keyLe (k1 k2 : Key) : Prop := keyVersion k1 ≤ keyVersion k2

theorem keyVersion_hashKey (v : Version) : cmpVersion (keyVersion v.hashKey) = cmpVersion { v with build := [] } := rfl

theorem key_le_iff (a b : Version) : keyLe a.hashKey b.hashKey ↔ a ≤ b := by
  rw [le_def a b, ← C04_build_ignored a b [] []]
  exact Iff.rfl

theorem keyLe_antisymm (k1 k2 : Key) (h1 : keyLe k1 k2) (h2 : keyLe k2 k1) : k1 = k2 :=
  (hashKey_eq_iff (keyVersion k1) (keyVersion k2)).mpr ((cmp_eq_iff _ _).mpr ⟨h1, h2⟩)

/-- the sorted order is unique up to build metadata: two ascending rearrangements of one list agree
field by field on everything precedence looks at -/
theorem C04_sorted_unique (l1 l2 : List Version) (hp : l1.Perm l2) (h1 : l1.Pairwise (· ≤ ·))
    (h2 : l2.Pairwise (· ≤ ·)) : l1.map Version.hashKey = l2.map Version.hashKey := by
  apply List.Perm.eq_of_pairwise (le := keyLe)
  · intro a b _ _ hab hba; exact keyLe_antisymm a b hab hba
  · rw [List.pairwise_map]; exact h1.imp (fun h => (key_le_iff _ _).mpr h)
  · rw [List.pairwise_map]; exact h2.imp (fun h => (key_le_iff _ _).mpr h)
  · exact hp.map _

theorem C04_any_sort_agrees (l l' : List Version) (hp : l'.Perm l) (hs : l'.Pairwise (· ≤ ·)) :
    l'.map Version.hashKey = (sortVersions l).map Version.hashKey :=
  C04_sorted_unique l' (sortVersions l) (hp.trans (C04_sort_perm l).symm) hs (C04_sort_sorted l)

theorem mem_dedupFirst_cons {x z : Version} {xs : List Version} :
    z ∈ dedupFirst (x :: xs) ↔ z = x ∨ z ∈ dedupFirst xs ∧ cmpVersion x z ≠ .eq := by
  rw [dedupFirst, List.mem_cons, List.mem_filter, bne_iff_ne]

theorem mem_dedupFirst (l : List Version) (y : Version) : y ∈ dedupFirst l → y ∈ l := by
  induction l with
  | nil => exact id
  | cons x xs ih =>
    rw [mem_dedupFirst_cons, List.mem_cons]
    exact Or.imp_right fun h => ih h.1

/-- `BTreeSet<Version>` is modelled as `dedupFirst`, sorted; `dedupFirst` keeps at most one element of a
precedence class and (`C04_set_covers`) a representative of every input element -/
theorem C04_set_distinct (l : List Version) : (dedupFirst l).Pairwise (fun a b => cmpVersion a b ≠ .eq) := by
  induction l with
  | nil => exact .nil
  | cons x xs ih =>
    rw [dedupFirst, List.pairwise_cons]
    exact ⟨fun y hy => bne_iff_ne.mp (List.mem_filter.mp hy).2, ih.filter _⟩

theorem C04_set_covers (l : List Version) (y : Version) (hy : y ∈ l) :
    ∃ x ∈ dedupFirst l, cmpVersion x y = .eq := by
  induction l with
  | nil => cases hy
  | cons x xs ih =>
    rcases List.mem_cons.mp hy with rfl | hy
    · exact ⟨y, mem_dedupFirst_cons.mpr (.inl rfl), C04_refl y⟩
    · obtain ⟨z, hz, hzy⟩ := ih hy
      -- `z` is dropped only if `x` already stands for its class
      by_cases hxz : cmpVersion x z = .eq
      · exact ⟨x, mem_dedupFirst_cons.mpr (.inl rfl), TransCmp.eq_trans hxz hzy⟩
      · exact ⟨z, mem_dedupFirst_cons.mpr (.inr ⟨hz, hxz⟩), hzy⟩

/-! Non-vacuity: the order distinguishes the cases §11 names. -/

example : cmpVersion ⟨1, 0, 0, [.alpha "alpha".toList], []⟩ ⟨1, 0, 0, [], []⟩ = .lt := by decide +kernel
example : cmpVersion ⟨1, 0, 0, [.num 9], []⟩ ⟨1, 0, 0, [.alpha "a".toList], []⟩ = .lt := by decide +kernel
example : cmpVersion ⟨1, 0, 0, [.num 9], []⟩ ⟨1, 0, 0, [.num 10], []⟩ = .lt := by decide +kernel
example : cmpVersion ⟨1, 0, 0, [.alpha "a".toList], []⟩ ⟨1, 0, 0, [.alpha "a".toList, .num 0], []⟩ = .lt := by decide +kernel
example : cmpVersion ⟨1, 0, 0, [.alpha "B".toList], []⟩ ⟨1, 0, 0, [.alpha "a".toList], []⟩ = .lt := by decide +kernel
example : cmpVersion ⟨1, 2, 3, [], [.num 1]⟩ ⟨1, 2, 3, [], [.num 2]⟩ = .eq := by decide +kernel

end Semver.C04
