import SemverProofs.Props.C04
import SemverModel.Range
/-!
# C14 — max_satisfying / min_satisfying return the extreme satisfying list element

Holds for every range value (no well-formedness needed) and every list of versions.
-/
namespace Semver.C14
open Semver

section
/-! `hsel` is what `C04_max` says of `maxBy cmpVersion` with `R y m := y ≤ m`, and `C04_min` of
`minBy cmpVersion` with `R y m := m ≤ y`. -/
variable {α} {R : α → α → Prop} {sel : List α → Option α}
  (hsel : ∀ l, (sel l = none ↔ l = []) ∧ ∀ m, sel l = some m → m ∈ l ∧ ∀ y ∈ l, R y m)
include hsel

theorem extreme_filter (p : α → Bool) (l : List α) (m : α) (h : sel (l.filter p) = some m) :
    m ∈ l ∧ p m = true ∧ ∀ x ∈ l, p x = true → R x m := by
  obtain ⟨hm, hle⟩ := (hsel _).2 m h
  rw [List.mem_filter] at hm
  exact ⟨hm.1, hm.2, fun x hx hp => hle x (List.mem_filter.mpr ⟨hx, hp⟩)⟩

theorem extreme_filter_none (p : α → Bool) (l : List α) :
    sel (l.filter p) = none ↔ ∀ x ∈ l, p x = false := by
  rw [(hsel _).1, List.filter_eq_nil_iff]
  simp

theorem extreme_perm {l l' : List α} (hp : l.Perm l') :
    (sel l = none ↔ sel l' = none) ∧
    ∀ m m', sel l = some m → sel l' = some m' → R m m' ∧ R m' m := by
  constructor
  · rw [(hsel l).1, (hsel l').1]
    exact ⟨fun h => (h ▸ hp).symm.eq_nil, fun h => (h ▸ hp).eq_nil⟩
  intro m m' h h'
  obtain ⟨hm, hle⟩ := (hsel l).2 m h
  obtain ⟨hm', hle'⟩ := (hsel l').2 m' h'
  exact ⟨hle' m (hp.mem_iff.mp hm), hle m' (hp.mem_iff.mpr hm')⟩

end

theorem C14_max (r : Range) (vs : List Version) (m : Version) (h : r.maxSatisfying vs = some m) :
    m ∈ vs ∧ r.satisfies m = true ∧ ∀ x ∈ vs, r.satisfies x = true → x ≤ m :=
  extreme_filter C04.C04_max r.satisfies vs m h

theorem C14_max_none (r : Range) (vs : List Version) :
    r.maxSatisfying vs = none ↔ ∀ x ∈ vs, r.satisfies x = false :=
  extreme_filter_none C04.C04_max r.satisfies vs

theorem C14_min (r : Range) (vs : List Version) (m : Version) (h : r.minSatisfying vs = some m) :
    m ∈ vs ∧ r.satisfies m = true ∧ ∀ x ∈ vs, r.satisfies x = true → m ≤ x :=
  extreme_filter C04.C04_min r.satisfies vs m h

theorem C14_min_none (r : Range) (vs : List Version) :
    r.minSatisfying vs = none ↔ ∀ x ∈ vs, r.satisfies x = false :=
  extreme_filter_none C04.C04_min r.satisfies vs

/-- never selects a version the range does not admit — in particular never an unadmitted prerelease -/
theorem C14_never_unadmitted (r : Range) (vs : List Version) (m : Version)
    (h : r.maxSatisfying vs = some m ∨ r.minSatisfying vs = some m) : r.satisfies m = true := by
  rcases h with h | h
  · exact (C14_max r vs m h).2.1
  · exact (C14_min r vs m h).2.1

/-- the answer does not depend on the order of the slice, beyond the choice among precedence-equal
elements -/
theorem C14_perm_max (r : Range) (vs ws : List Version) (hp : vs.Perm ws) :
    (r.maxSatisfying vs = none ↔ r.maxSatisfying ws = none) ∧
    ∀ m m', r.maxSatisfying vs = some m → r.maxSatisfying ws = some m' → (m ≤ m' ∧ m' ≤ m) :=
  extreme_perm C04.C04_max (hp.filter _)

theorem C14_perm_min (r : Range) (vs ws : List Version) (hp : vs.Perm ws) :
    (r.minSatisfying vs = none ↔ r.minSatisfying ws = none) ∧
    ∀ m m', r.minSatisfying vs = some m → r.minSatisfying ws = some m' → (m ≤ m' ∧ m' ≤ m) :=
  (extreme_perm C04.C04_min (hp.filter _)).imp_right fun h m m' hm hm' => (h m m' hm hm').symm

end Semver.C14
