import SemverProofs.Props.C05
import SemverModel.Serde
/-!
# C12 — printing a version and parsing it back returns the same version

The round trip carries the hypothesis that the printed form fits MAX_LENGTH.  It is forced: a
256-byte input that spells its prerelease without the hyphen prints with 257 bytes and is then
rejected by the length guard (`C12_full_statement_fails`, known finding K1; node-semver has the same
edge).
-/
namespace Semver.C12
open Semver Spec

theorem render_in_lang (v : Version) (hc : canon v) (hlen : utf8Len v.render ≤ MAX_LENGTH) :
    VersionLang v.render v := by
  obtain ⟨h1, h2, h3, h4, h5⟩ := hc
  exact ⟨by rw [utf8Length_eq]; exact hlen, [], [], _, _, _, _, _, [],
    by simp [Version.render, renderCore], Or.inl rfl, rfl, rfl,
    numText_render _ h1, numText_render _ h2, numText_render _ h3, preText_render _ h4, buildText_render _ h5⟩

/-- C12: printing and parsing back returns all five fields, build metadata included -/
theorem C12_roundtrip (v : Version) (hc : canon v) (hlen : utf8Len v.render ≤ MAX_LENGTH) :
    Version.parse v.render = .ok v :=
  C05.C05_complete _ _ (render_in_lang v hc hlen)

theorem C12_fixed_point (v : Version) (hc : canon v) (hlen : utf8Len v.render ≤ MAX_LENGTH) :
    ∃ w, Version.parse v.render = .ok w ∧ w.render = v.render :=
  ⟨v, C12_roundtrip v hc hlen, rfl⟩

theorem C12_parser_outputs_canon (s : List Char) (v : Version) (h : Version.parse s = .ok v) : canon v :=
  canon_of_versionLang (C05.C05_sound s v h)

theorem C12_roundtrip_parsed (s : List Char) (v : Version) (h : Version.parse s = .ok v)
    (hlen : utf8Len v.render ≤ MAX_LENGTH) : Version.parse v.render = .ok v :=
  C12_roundtrip v (C12_parser_outputs_canon s v h) hlen

/-- the characters of a printed canonical version; none needs a JSON escape -/
def jsonSafe (c : Char) : Bool := isIdChar c || c == '.' || c == '+'

theorem jsonSafe_no_escape {c : Char} (h : jsonSafe c = true) : (c != '"' && c != '\\') = true := by
  simp only [Bool.and_eq_true, bne_iff_ne, ne_eq]
  exact ⟨ne_of_class h '"', ne_of_class h '\\'⟩

theorem all_no_escape {t : List Char} (h : t.all jsonSafe = true) : t.all (fun c => c != '"' && c != '\\') = true :=
  List.all_eq_true.2 fun c hm => jsonSafe_no_escape (List.all_eq_true.1 h c hm)

theorem jsonUnquote_quote (t : List Char) (h : t.all (fun c => c != '"' && c != '\\') = true) :
    jsonUnquote (jsonQuote t) = some t := by
  unfold jsonUnquote jsonQuote
  simp only [List.reverse_append, List.reverse_cons, List.reverse_nil, List.nil_append, List.cons_append,
    List.reverse_reverse]
  have : (t.reverse.all fun c => c != '"' && c != '\\') = true := by
    rw [List.all_eq_true] at h ⊢
    intro c hc
    exact h c (List.mem_reverse.mp hc)
  simp [this]

theorem ident_render_safe {i : Ident} (h : IdCanon i) : i.render.all jsonSafe = true := by
  have := (idText_iff.1 (idText_render h)).2.1
  rw [List.all_eq_true] at this ⊢
  intro c hc
  simp [jsonSafe, this c hc]

theorem renderIds_safe (ids : List Ident) (h : ∀ j ∈ ids, IdCanon j) : (renderIds ids).all jsonSafe = true := by
  induction ids with
  | nil => rfl
  | cons i is ih =>
    cases is with
    | nil => simpa [renderIds] using ident_render_safe (h i List.mem_cons_self)
    | cons j js =>
      simp only [renderIds, List.all_append, List.all_cons, Bool.and_eq_true]
      refine ⟨ident_render_safe (h i List.mem_cons_self), by decide, ?_⟩
      exact ih (fun k hk => h k (by simp at hk ⊢; right; exact hk))

theorem renderNat_safe (n : Nat) : (renderNat n).all jsonSafe = true := by
  have := all_digits_render n
  rw [List.all_eq_true] at this ⊢
  intro c hc
  simp [jsonSafe, isDigit_isIdChar (this c hc)]

theorem render_safe (v : Version) (hc : canon v) : v.render.all jsonSafe = true := by
  obtain ⟨_, _, _, h4, h5⟩ := hc
  have hp : (if v.pre.isEmpty then [] else '-' :: renderIds v.pre).all jsonSafe = true := by
    split
    · rfl
    · simp only [List.all_cons, Bool.and_eq_true]; exact ⟨by decide, renderIds_safe _ h4⟩
  have hb : (if v.build.isEmpty then [] else '+' :: renderIds v.build).all jsonSafe = true := by
    split
    · rfl
    · simp only [List.all_cons, Bool.and_eq_true]; exact ⟨by decide, renderIds_safe _ h5⟩
  have hd : jsonSafe '.' = true := by decide
  simp only [Version.render, renderCore, List.all_append, List.all_cons, Bool.and_eq_true, renderNat_safe,
    hp, hb, hd, and_self]

/-- C12, serde: decoding the JSON of a version returns it.  The first conjunct is the model's definition
of `toJson` (the quoted printed form); that `serde_json` neither adds nor needs an escape is trusted -/
theorem C12_serde (v : Version) (hc : canon v) (hlen : utf8Len v.render ≤ MAX_LENGTH) :
    v.toJson = '"' :: v.render ++ ['"'] ∧ Version.fromJson v.toJson = some v := by
  refine ⟨rfl, ?_⟩
  unfold Version.fromJson Version.toJson
  rw [jsonUnquote_quote _ (all_no_escape (render_safe v hc))]
  simp only
  rw [C12_roundtrip v hc hlen]

theorem utf8Len_replicate_a (n : Nat) : utf8Len (List.replicate n 'a') = n := by
  induction n with
  | zero => rfl
  | succ k ih =>
    have h1 : ('a' : Char).utf8Size = 1 := by decide
    rw [List.replicate_succ, utf8Len_cons, ih, h1]
    omega

theorem replicate_all_a (n : Nat) (p : Char → Bool) (h : p 'a' = true) : (List.replicate n 'a').all p = true := by
  simp [List.all_replicate, h]

def aTag (n : Nat) : List Char := List.replicate (n + 1) 'a'

theorem aTag_cons (n : Nat) : aTag n = 'a' :: List.replicate n 'a' := List.replicate_succ

theorem aTag_not_digits (n : Nat) : (aTag n).all isDigit = false := by
  rw [aTag_cons]; rfl

theorem utf8Len_aTag (n : Nat) : utf8Len (aTag n) = n + 1 := utf8Len_replicate_a (n + 1)

theorem renderCore_123 : renderCore 1 2 3 = "1.2.3".toList := by
  rw [renderCore, renderNat_lt (by decide), renderNat_lt (by decide), renderNat_lt (by decide)]
  decide

/-- `1.2.3aaa…a` (prerelease spelled without its hyphen) parses whenever it fits MAX_LENGTH -/
theorem hyphenless_parses (n : Nat) (hn : n + 6 ≤ 256) :
    Version.parse ("1.2.3".toList ++ aTag n) = .ok ⟨1, 2, 3, [.alpha (aTag n)], []⟩ := by
  apply C05.C05_complete
  refine ⟨?_, [], [], renderNat 1, renderNat 2, renderNat 3, aTag n, [], [], ?_, Or.inl rfl, rfl, rfl,
    numText_render 1 (by decide), numText_render 2 (by decide), numText_render 3 (by decide), ?_,
    Or.inl ⟨rfl, rfl⟩⟩
  · rw [utf8Length_eq, utf8Len_append, utf8Len_aTag]
    have : utf8Len "1.2.3".toList = 5 := by decide
    omega
  · rw [← renderCore_123]
    simp [renderCore]
  · exact Or.inr (Or.inr ⟨⟨aTag n, _, [], [], by simp, rfl,
      idText_iff.2 ⟨by rw [aTag_cons]; simp, replicate_all_a (n + 1) isIdChar (by decide),
        (classify_alpha (by rw [aTag_not_digits]; simp)).symm⟩, .nil⟩,
      'a', List.replicate n 'a', aTag_cons n, by decide⟩)

theorem hyphenless_render (n : Nat) :
    (Version.mk 1 2 3 [.alpha (aTag n)] []).render = "1.2.3-".toList ++ aTag n := by
  simp [Version.render, renderIds, Ident.render, renderCore_123]

/-- C12 without the length hypothesis is false (K1): a version returned by `Version::parse` from a
256-byte input whose printed form (257 bytes) the length guard rejects -/
theorem C12_full_statement_fails :
    ∃ s v, Version.parse s = .ok v ∧ ∀ w, Version.parse v.render ≠ .ok w := by
  refine ⟨"1.2.3".toList ++ aTag 250, ⟨1, 2, 3, [.alpha (aTag 250)], []⟩, hyphenless_parses 250 (by omega), ?_⟩
  apply C05.C05_too_long
  rw [hyphenless_render, utf8Len_append, utf8Len_aTag]
  decide

end Semver.C12
