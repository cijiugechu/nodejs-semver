import SemverProofs.Props.C06
import SemverProofs.Props.C12
import SemverModel.Serde
import SemverProofs.Lemmas.RangeText
/-!
# C13 — printing a range and parsing it back returns an equivalent range

For every range obtained from `Range::parse`, or from `intersect` / `difference` of such ranges (the
invariant `RangeGood` of `Lemmas/PrintableInv.lean`): the printed form parses, alternative by
alternative, to intervals that compare equal to the originals (`PartialEq`), admit the same versions,
and print to the same text again (`C13_roundtrip_good`, from `parse_render` of
`Lemmas/RangeText.lean`).  No alternative of such a range is the unbounded interval, the one whose
printed form `*` parses back to a different interval (`>=0.0.0`); `Range::any()` is that interval and
is outside this property.  The serde form is the quoted printed form.
-/
namespace Semver.C13
open Semver Pred Bound

theorem C13_render_total (r : Range) (h : r.WF) : Range.render r ≠ none := C06.C06_display_total r h

/-- no alternative of a parsed range is the unbounded interval, the one that prints as `*` -/
theorem C13_never_star (s : List Char) (r : Range) (h : Range.parse s = .ok r) : ∀ x ∈ r, Bounded x :=
  fun x hx => ((parse_good h).2 x hx).2.1

/-- nor of an intersection whose left operand has none (`closed`: under `intersect`) -/
theorem C13_never_star_closed (a b r : Range) (ha : a.WF) (hb : b.WF) (hab : ∀ x ∈ a, Bounded x)
    (h : Range.intersect a b = some r) : ∀ x ∈ r, Bounded x := by
  obtain ⟨rfl, _⟩ := Range.intersect_eq_some.mp h
  intro x hx
  obtain ⟨s, hs, o, ho, hi⟩ := mem_intersectSets.mp hx
  exact intersect_bounded (ha.2 s hs) (hb.2 o ho) hi (hab s hs)

theorem version_render_length (v : Version) : 2 ≤ v.render.length := by
  -- the two dots of `major.minor.patch`
  simp only [Version.render, renderCore, List.length_append, List.length_cons]
  omega

theorem C13_not_star (s : BoundSet) (hs : s.WF) (hb : Bounded s) : s.render ≠ some ['*'] := by
  obtain ⟨p, q, rfl, _⟩ := hs
  have hv : ∀ v : Version, v.render ≠ ['*'] := by
    intro v h
    have := version_render_length v
    rw [h] at this
    exact absurd this (by decide)
  -- every other printed form starts with an operator or is a printed version
  cases p with
  | unb =>
    cases q with
    | unb => exact absurd ⟨rfl, rfl⟩ hb
    | inc v => simp [BoundSet.render]
    | exc v => simp [BoundSet.render]
  | inc v =>
    cases q with
    | unb => simp [BoundSet.render]
    | inc v2 =>
      simp only [BoundSet.render]
      split
      · simpa using hv v
      · simp
    | exc v2 => simp [BoundSet.render]
  | exc v => cases q <;> simp [BoundSet.render]

/-- the JSON is the quoted printed form; decoding is `parse` of the printed form — for printed forms
that contain nothing JSON escapes (`hsafe`).  That every printed range is such a form (its characters
are those of printed versions, operators, blanks and `|`) is not proved -/
theorem C13_serde (r : Range) (t : List Char) (hr : Range.render r = some t)
    (hsafe : t.all (fun c => c != '"' && c != '\\') = true) :
    Range.toJson r = some ('"' :: t ++ ['"']) ∧
    ∀ x, Range.fromJson ('"' :: t ++ ['"']) = some x ↔ Range.parse t = .ok x := by
  constructor
  · simp [Range.toJson, hr, jsonQuote]
  · intro x
    unfold Range.fromJson
    rw [show '"' :: t ++ ['"'] = jsonQuote t from rfl, C12.jsonUnquote_quote t hsafe]
    simp only
    cases Range.parse t <;> simp

theorem sameRange_sem {r' r : Range} (h : SameRange r' r) :
    r'.length = r.length ∧
    (∀ v, Range.within r' v = Range.within r v) ∧ (∀ v, Range.satisfies r' v = Range.satisfies r v) ∧
    (List.zip r' r).all (fun x => x.1.beq x.2) = true := by
  induction h with
  | nil => simp [Range.within, Range.satisfies]
  | cons hs _ ih =>
    rename_i s' s r' r _
    obtain ⟨hb, hsem⟩ := hs
    obtain ⟨h1, h2, h3, h4⟩ := ih
    refine ⟨by simp [h1], ?_, ?_, ?_⟩
    · intro v
      have := h2 v
      simp only [Range.within, List.any_cons] at this ⊢
      rw [(hsem v).1, this]
    · intro v
      have := h3 v
      simp only [Range.satisfies, List.any_cons, BoundSet.satisfies] at this ⊢
      rw [(hsem v).1, (hsem v).2, this]
    · simp only [List.zip_cons_cons, List.all_cons, hb, Bool.true_and]
      exact h4

/-- every range built by `parse`, `intersect`, `difference` round-trips through its printed form -/
theorem C13_roundtrip_good (r : Range) (hr : RangeGood r) :
    ∃ t r', Range.render r = some t ∧ Range.parse t = .ok r' ∧ Range.render r' = some t ∧
      r'.length = r.length ∧ (List.zip r' r).all (fun x => x.1.beq x.2) = true ∧
      (∀ v, Range.within r' v = Range.within r v) ∧ (∀ v, Range.satisfies r' v = Range.satisfies r v) ∧
      RangeGood r' := by
  have hwf := rangeGood_wf hr
  cases ht : Range.render r with
  | none => exact absurd ht (C13_render_total r hwf)
  | some t =>
    obtain ⟨r', h1, h2, h3⟩ := parse_render r hr.1 hr.2 t ht
    obtain ⟨s1, s2, s3, s4⟩ := sameRange_sem h2
    exact ⟨t, r', rfl, h1, h3, s1, s4, s2, s3, parse_good h1⟩

/-- for ranges obtained from `Range::parse` the re-parsed range compares equal to the original, admits
the same versions, and printing is stable -/
theorem C13_roundtrip_parsed (s : List Char) (r : Range) (h : Range.parse s = .ok r) :
    ∃ t r', Range.render r = some t ∧ Range.parse t = .ok r' ∧ Range.render r' = some t ∧
      r'.length = r.length ∧ (List.zip r' r).all (fun x => x.1.beq x.2) = true ∧
      (∀ v, Range.within r' v = Range.within r v) ∧ (∀ v, Range.satisfies r' v = Range.satisfies r v) := by
  obtain ⟨t, r', a, b, c, d, e, f, g, _⟩ := C13_roundtrip_good r (parse_good h)
  exact ⟨t, r', a, b, c, d, e, f, g⟩

/-- results of `intersect` round-trip (length and `beq` as in `C13_roundtrip_good`, not restated) and
remain operands whose results round-trip -/
theorem C13_roundtrip_intersect (a b r : Range) (ha : RangeGood a) (hb : RangeGood b)
    (h : Range.intersect a b = some r) :
    RangeGood r ∧ ∃ t r', Range.render r = some t ∧ Range.parse t = .ok r' ∧ Range.render r' = some t ∧
      (∀ v, Range.within r' v = Range.within r v) ∧ (∀ v, Range.satisfies r' v = Range.satisfies r v) := by
  have hg := range_intersect_good ha hb h
  obtain ⟨t, r', x1, x2, x3, _, _, x6, x7, _⟩ := C13_roundtrip_good r hg
  exact ⟨hg, t, r', x1, x2, x3, x6, x7⟩

/-- results of `difference` round-trip and remain operands whose results round-trip -/
theorem C13_roundtrip_difference (a b r : Range) (ha : RangeGood a) (hb : RangeGood b)
    (h : Range.difference a b = some (some r)) :
    RangeGood r ∧ ∃ t r', Range.render r = some t ∧ Range.parse t = .ok r' ∧ Range.render r' = some t ∧
      (∀ v, Range.within r' v = Range.within r v) ∧ (∀ v, Range.satisfies r' v = Range.satisfies r v) := by
  have hg := range_difference_good ha hb h
  obtain ⟨t, r', x1, x2, x3, _, _, x6, x7, _⟩ := C13_roundtrip_good r hg
  exact ⟨hg, t, r', x1, x2, x3, x6, x7⟩

theorem C13_parsed_good (s : List Char) (r : Range) (h : Range.parse s = .ok r) : RangeGood r := parse_good h

end Semver.C13
