import SemverProofs.Lemmas.Gate
/-!
# C10 — allows_all(A, B) = true guarantees B's versions are all allowed by A (B a single alternative)
-/
namespace Semver.C10
open Semver Pred Bound

theorem wf_singleton {b : BoundSet} (hb : b.WF) : Range.WF [b] :=
  ⟨List.cons_ne_nil b [], fun _ hs => List.mem_singleton.mp hs ▸ hb⟩

/-- for any number of alternatives in `B`: `allows_all` answers `true` only if *some* alternative of
`B` lies within `A` (all of `B` when it has one alternative, which is the property) -/
theorem allowsAll_sound_range {A B : Range} (hA : A.WF) (hB : B.WF) (h : Range.allowsAll A B = true) :
    ∃ y ∈ B, ∀ v, y.within v = true → Range.within A v = true := by
  rw [Range.allowsAll_iff] at h
  obtain ⟨x, hx, y, hy, hxy⟩ := h
  exact ⟨y, hy, fun v hv =>
    (Range.within_iff A v).mpr ⟨x, hx, allowsAll_sound (hA.2 x hx) (hB.2 y hy) hxy v hv⟩⟩

theorem C10_sound {A : Range} {b : BoundSet} (hA : A.WF) (hb : b.WF) (h : Range.allowsAll A [b] = true)
    (v : Version) (hv : b.within v = true) : Range.within A v = true := by
  obtain ⟨y, hy, hyA⟩ := allowsAll_sound_range hA (wf_singleton hb) h
  obtain rfl := List.mem_singleton.mp hy
  exact hyA v hv

theorem C10_sound_release {A : Range} {b : BoundSet} (hA : A.WF) (hb : b.WF)
    (h : Range.allowsAll A [b] = true) {v : Version} (hv : v.isPre = false)
    (hs : Range.satisfies [b] v = true) : Range.satisfies A v = true := by
  rw [Range.satisfies_release A hv]
  rw [Range.satisfies_release [b] hv, Range.within_iff] at hs
  obtain ⟨y, hy, hyv⟩ := hs
  obtain rfl := List.mem_singleton.mp hy
  exact C10_sound hA hb h v hyv

theorem C10_implies_any {A : Range} {b : BoundSet} (hA : A.WF) (hb : b.WF)
    (h : Range.allowsAll A [b] = true) : Range.allowsAny A [b] = true :=
  Range.allowsAll_imp_allowsAny hA (wf_singleton hb) h

theorem C10_refl {A : Range} (hA : A.WF) : Range.allowsAll A A = true :=
  Range.allowsAll_refl hA

theorem difference_singleton (a b : BoundSet) :
    Range.difference [b] [a] =
      match b.difference a with
      | .panic => none
      | .none => some none
      | .some l => some (if l.isEmpty then none else some l) := by
  simp only [Range.difference, diffPieces, diffPiecesF, diffAlt, diffStep, diffStepF, List.foldr_cons, List.foldr_nil,
    List.foldl_cons, List.foldl_nil, Option.bind_some]
  cases b.difference a <;> simp

/-- single alternatives: `a.allows_all(b)` exactly when `b.difference(a)` is `None` -/
theorem C10_iff_difference_none {a b : BoundSet} (ha : a.WF) (hb : b.WF) :
    Range.allowsAll [a] [b] = true ↔ Range.difference [b] [a] = some none := by
  have hall : Range.allowsAll [a] [b] = true ↔ a.allowsAll b = true := by
    simp [Range.allowsAll_iff]
  rw [hall, ← difference_eq_none_iff hb ha, difference_singleton]
  have := difference_ne_some_nil hb ha
  cases h : b.difference a with
  | panic => simp
  | none => simp
  | some l => cases l <;> simp_all

end Semver.C10
