import SemverProofs.Lemmas.Location
import SemverProofs.Lemmas.VersionParse
import SemverModel.RangeParse
/-!
# C17 — parse errors report the original input, an in-range offset and the right kind

Whenever `Version::parse` or `Range::parse` fails, `input()` is the string passed in, `offset()` is the
byte length of a character prefix of it, `location()` is the line and column of that offset (stated
independently in `Spec.lineCol`) and so does not panic, and the kind is the one the cause calls for.
The values handed to miette (source = input, one label at the offset, length 0) are therefore in
range; miette's own rendering is executed by the harness, not modelled.
-/
namespace Semver.C17
open Semver Spec

theorem parse_error_shape (s : List Char) (e : SemverError) (h : Version.parse s = .error e) :
    e.input = s ∧ (∃ p r, s = p ++ r ∧ e.offset = utf8Len p) ∧
      (e.kind = .maxLength ∨ e.kind = .context "version" ∨ e.kind = .parseIntOverflow ∨ ∃ n, e.kind = .maxInt n) := by
  unfold Version.parse at h
  by_cases hlen : MAX_LENGTH < utf8Len s
  · rw [if_pos hlen] at h
    cases h
    refine ⟨rfl, ?_, Or.inl rfl⟩
    cases hl : s.getLast? with
    | none => exact ⟨[], s, rfl, rfl⟩
    | some c =>
      obtain ⟨p, hp⟩ := List.getLast?_eq_some_iff.1 hl
      refine ⟨p, [c], hp, ?_⟩
      simp only
      rw [hp, utf8Len_append, utf8Len_cons, utf8Len_nil, Nat.add_zero, Nat.add_sub_cancel]
  · rw [if_neg hlen] at h
    cases hp : versionP s with
    | ok v r => rw [hp] at h; cases h
    | err pe =>
      rw [hp] at h
      cases h
      obtain ⟨hctx, ⟨p, hp'⟩, hk⟩ := versionP_err hp
      refine ⟨rfl, ⟨p, pe.rest, hp'.symm, ?_⟩, Or.inr ?_⟩
      · simp only
        rw [← hp', utf8Len_append, Nat.add_sub_cancel]
      · simp only [PErr.finalKind, hctx]
        rcases hk with hk | hk | ⟨n, hk⟩
        · exact Or.inl (by rw [hk])
        · exact Or.inr (Or.inl (by rw [hk]))
        · exact Or.inr (Or.inr ⟨n, by rw [hk]⟩)

/-- C17 for ranges: the only error is `NoValidRanges` at offset 0; the three `_range` theorems are read off it -/
theorem C17_no_valid_ranges (s : List Char) (e : SemverError) (h : Range.parse s = .error e) :
    e = ⟨s, 0, .noValidRanges⟩ := by
  unfold Range.parse at h
  simp only at h
  split at h <;> cases h; rfl

theorem C17_input_version (s : List Char) (e : SemverError) (h : Version.parse s = .error e) : e.input = s :=
  (parse_error_shape s e h).1

theorem C17_input_range (s : List Char) (e : SemverError) (h : Range.parse s = .error e) : e.input = s := by
  rw [C17_no_valid_ranges s e h]

theorem C17_offset_version (s : List Char) (e : SemverError) (h : Version.parse s = .error e) :
    e.offset ≤ utf8Len s ∧ Spec.isBoundary s e.offset = true := by
  obtain ⟨_, ⟨p, r, hs, ho⟩, _⟩ := parse_error_shape s e h
  constructor
  · rw [ho, hs, utf8Len_append]; exact Nat.le_add_right _ _
  · rw [ho, hs, Spec.isBoundary, lineCol_prefix]; rfl

theorem C17_offset_range (s : List Char) (e : SemverError) (h : Range.parse s = .error e) :
    e.offset = 0 ∧ Spec.isBoundary s e.offset = true := by
  rw [C17_no_valid_ranges s e h]
  exact ⟨rfl, congrArg Option.isSome (lineCol_prefix [] s)⟩

/-- C17: `location()` does not panic (its slice is on a character boundary) and is the 0-based line and
column of the offset -/
theorem C17_location_version (s : List Char) (e : SemverError) (h : Version.parse s = .error e) :
    e.location = Spec.lineCol s e.offset ∧ e.location ≠ none := by
  obtain ⟨hi, ⟨p, r, hs, ho⟩, _⟩ := parse_error_shape s e h
  have he : e = ⟨p ++ r, utf8Len p, e.kind⟩ := by
    cases e; simp only at hi ho ⊢; rw [hi, ho, hs]
  rw [he]
  simp only
  rw [hs]
  exact ⟨location_eq_spec p r _, by rw [location_prefix]; simp⟩

theorem C17_location_range (s : List Char) (e : SemverError) (h : Range.parse s = .error e) :
    e.location = some (0, 0) ∧ Spec.lineCol s e.offset = some (0, 0) := by
  rw [C17_no_valid_ranges s e h]
  exact ⟨location_prefix [] s _, lineCol_prefix [] s⟩

theorem C17_max_length (s : List Char) (h : MAX_LENGTH < utf8Len s) :
    ∃ off, Version.parse s = .error ⟨s, off, .maxLength⟩ := by
  unfold Version.parse
  rw [if_pos h]
  exact ⟨_, rfl⟩

theorem number_big {A rest : List Char} (hA : A.all isDigit = true) (hne : A ≠ [])
    (hr : ∀ c, rest.head? = some c → isDigit c = false) (hv : MAX_SAFE_INTEGER < valOf A) :
    number (A ++ rest) = .err ⟨A ++ rest, some "number component",
      some (if U64 ≤ valOf A then .parseIntOverflow else .maxInt (valOf A))⟩ := by
  unfold number
  rw [span_append isDigit A rest hA hr]
  have h1 : A.isEmpty = false := by simpa using hne
  by_cases h2 : U64 ≤ valOf A
  · simp [h1, h2]
  · simp [h1, h2, hv]

/-- what precedes the failing component: optional `v`, blanks, the components already read -/
inductive Before : List Char → Prop
  | first {pfx b1} : (pfx = [] ∨ pfx = ['v'] ∨ pfx = ['V']) → b1.all isBlank = true → Before (pfx ++ b1)
  | second {pfx b1 A a} : (pfx = [] ∨ pfx = ['v'] ∨ pfx = ['V']) → b1.all isBlank = true → NumText A a →
      Before (pfx ++ (b1 ++ (A ++ ['.'])))
  | third {pfx b1 A a B b} : (pfx = [] ∨ pfx = ['v'] ∨ pfx = ['V']) → b1.all isBlank = true → NumText A a →
      NumText B b → Before (pfx ++ (b1 ++ (A ++ '.' :: (B ++ ['.']))))

/-- C17, kinds: a component above MAX_SAFE_INTEGER reports `MaxIntError` with its value, or `ParseIntError`
if it overflows `u64`, at its own position, whichever of the three it is -/
theorem C17_component_too_large {before A rest : List Char} (hb : Before before)
    (hA : A.all isDigit = true) (hne : A ≠ []) (hr : ∀ c, rest.head? = some c → isDigit c = false)
    (hv : MAX_SAFE_INTEGER < valOf A) (hlen : utf8Len (before ++ (A ++ rest)) ≤ MAX_LENGTH) :
    Version.parse (before ++ (A ++ rest)) =
      .error ⟨before ++ (A ++ rest), utf8Len before,
        if U64 ≤ valOf A then .parseIntOverflow else .maxInt (valOf A)⟩ := by
  have hnl : ¬ MAX_LENGTH < utf8Len (before ++ (A ++ rest)) := Nat.not_lt.2 hlen
  have hnum := number_big hA hne hr hv
  -- the leading `v` and blanks are skipped, the components before are read, `number()` fails on `A`
  have key : versionP (before ++ (A ++ rest)) = .err ⟨A ++ rest, some "version",
      some (if U64 ≤ valOf A then .parseIntOverflow else .maxInt (valOf A))⟩ := by
    unfold versionP
    cases hb with
    | first hpfx hb1 =>
      rw [List.append_assoc, dropBlanks_stripVV_append hpfx hb1 hA hne]
      simp only [versionCore, hnum]
      rfl
    | second hpfx hb1 hA0 =>
      obtain ⟨hne0, hd0, _⟩ := numText_iff.1 hA0
      simp only [List.append_assoc, List.cons_append, List.nil_append]
      rw [dropBlanks_stripVV_append hpfx hb1 hd0 hne0]
      simp only [versionCore, dot, number_append hA0 dot_not_digit, hnum]
      rfl
    | third hpfx hb1 hA0 hB0 =>
      obtain ⟨hne0, hd0, _⟩ := numText_iff.1 hA0
      simp only [List.append_assoc, List.cons_append, List.nil_append]
      rw [dropBlanks_stripVV_append hpfx hb1 hd0 hne0]
      simp only [versionCore, dot, number_append hA0 dot_not_digit, number_append hB0 dot_not_digit, hnum]
      rfl
  unfold Version.parse
  rw [if_neg hnl, key]
  simp only [PErr.finalKind]
  congr 1
  simp only [SemverError.mk.injEq, true_and, and_true]
  rw [utf8Len_append, Nat.add_sub_cancel]

/-- C17, kinds: `Version::parse` never reports `IncompleteInput`, `Other` or `NoValidRanges`: every error
of `version()` passes through `.context("version")` with a kind set by `number()` or none -/
theorem C17_unreachable_kinds (s : List Char) (e : SemverError) (h : Version.parse s = .error e) :
    e.kind ≠ .incompleteInput ∧ e.kind ≠ .other ∧ e.kind ≠ .noValidRanges := by
  rcases (parse_error_shape s e h).2.2 with hk | hk | hk | ⟨n, hk⟩ <;> simp [hk]

def errOf (r : Except SemverError Version) : Option SemverError :=
  match r with
  | .error e => some e
  | .ok _ => none

example : errOf (Version.parse "1.2.900719925474100".toList) =
    some ⟨"1.2.900719925474100".toList, 4, .maxInt 900719925474100⟩ := by decide +kernel
example : errOf (Version.parse "1.18446744073709551616.3".toList) =
    some ⟨"1.18446744073709551616.3".toList, 2, .parseIntOverflow⟩ := by decide +kernel
example : (SemverError.mk "1.\n2.x".toList 5 (.context "version")).location = some (1, 2) := by decide +kernel

end Semver.C17
