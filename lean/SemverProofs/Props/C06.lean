import SemverProofs.Props.C15
import SemverProofs.Props.C17
import SemverProofs.Props.C11
import SemverProofs.Lemmas.ParseWF
import SemverProofs.Props.C05
import SemverModel.RangeFmt
/-!
# C06 — no input makes any public operation panic, overflow or hang

What a theorem about the model can carry: every model function is total and the parser's loops make
progress; parse results are well-formed and the operations keep well-formedness; on well-formed
values no `unwrap()` / `unreachable!` site is reached; every parsed component and every bound
component is at most MAX_SAFE_INTEGER, so every `+ 1` stays far below `u64::MAX`; `location()` is
defined for every error.  That the compiled crate does not panic and runs in roughly linear time is
established per run by executing it (debug assertions and overflow checks on) and by a measured
scaling test; both are labelled as testing in the evidence.
-/
namespace Semver.C06
open Semver Pred Bound

/-- the model of `Version::parse` answers every string (true of every Lean function: it records that
no case of the model is left undefined, nothing about the crate) -/
theorem C06_parse_total (s : List Char) :
    (∃ v, Version.parse s = .ok v) ∨ (∃ e, Version.parse s = .error e) := by
  cases h : Version.parse s with
  | ok v => exact Or.inl ⟨v, rfl⟩
  | error e => exact Or.inr ⟨e, rfl⟩

theorem C06_range_parse_total (s : List Char) :
    (∃ r, Range.parse s = .ok r) ∨ Range.parse s = .error ⟨s, 0, .noValidRanges⟩ := by
  cases h : Range.parse s with
  | ok r => exact Or.inl ⟨r, rfl⟩
  | error e => exact Or.inr (by rw [C17.C17_no_valid_ranges s e h])

/-- progress of the range parser's loops: the infinite-loop assertions of winnow's `separated`
cannot fire -/
theorem C06_progress (s : List Char) :
    (simple s).2.length ≤ s.length ∧ (∀ r, blanks1 s = some r → r.length < s.length) ∧
    (∀ r, logicalOr s = some r → r.length < s.length) :=
  ⟨simple_length s, fun _ h => blanks1_length h, fun _ h => logicalOr_length h⟩

/-- every range `Range::parse` returns has an alternative, and each alternative is a non-empty
`(Lower, Upper)` interval with valid bounds -/
theorem C06_parse_wf (s : List Char) (r : Range) (h : Range.parse s = .ok r) : r.WF := parse_wf h

theorem C06_shaped (r : Range) (h : r.WF) : ∀ s ∈ r, s.shaped = true :=
  fun s hs => WF.shaped (h.2 s hs)

/-- `Display` never reaches `unreachable!("does not make sense")` -/
theorem C06_display_total (r : Range) (h : r.WF) : Range.render r ≠ none := by
  have hset : ∀ s ∈ r, s.render ≠ none := by
    intro s hs
    obtain ⟨p, q, rfl, _⟩ := h.2 s hs
    cases p <;> cases q <;> simp [BoundSet.render] <;> split <;> simp
  clear h
  induction r with
  | nil => simp [Range.render]
  | cons s rest ih =>
    have h1 := hset s List.mem_cons_self
    have h2 := ih (fun x hx => hset x (List.mem_cons_of_mem _ hx))
    cases rest with
    | nil => simpa [Range.render] using h1
    | cons t rest' =>
      simp only [Range.render]
      cases hs : s.render with
      | none => exact absurd hs h1
      | some a =>
        cases ht : Range.render (t :: rest') with
        | none => exact absurd ht h2
        | some b => simp

/-- `difference`'s two `unwrap()`s are never reached on well-formed operands -/
theorem C06_difference_no_panic (a b : Range) (ha : a.WF) (hb : b.WF) : Range.difference a b ≠ none := by
  obtain ⟨res, h⟩ := C08.C08_total ha hb
  rw [h]; simp

theorem C06_set_difference_no_panic (s o : BoundSet) (hs : s.WF) (ho : o.WF) :
    s.difference o ≠ .panic := by
  have := difference_spec hs ho
  intro h; rw [h] at this; exact this

/-- compositions of `intersect` / `difference` of any depth never panic and stay well-formed -/
theorem C06_compositions_no_panic (e : Expr) (h : C15.leavesWF e) : e.eval ≠ none :=
  C15.C15_no_panic e h

/-- `Range::any()`'s `unwrap()` is on a constant `Some` -/
theorem C06_any_total : Range.anyRange ≠ none := by decide

theorem C06_components_bounded (s : List Char) (v : Version) (h : Version.parse s = .ok v) :
    v.major ≤ MAX_SAFE_INTEGER ∧ v.minor ≤ MAX_SAFE_INTEGER ∧ v.patch ≤ MAX_SAFE_INTEGER :=
  C05.C05_components_bounded s v h

/-- every bound of a well-formed range has components within MAX_SAFE_INTEGER: the `+ 1` of
`min_version` and of the parser tables is applied to numbers below 2^50 -/
theorem C06_bounds_bounded (r : Range) (h : r.WF) :
    ∀ s ∈ r, ∃ p q, s = ⟨up q, lo p⟩ ∧
      (∀ v, predVersion p = some v → v.major ≤ MAX_SAFE_INTEGER ∧ v.minor ≤ MAX_SAFE_INTEGER ∧ v.patch ≤ MAX_SAFE_INTEGER) ∧
      (∀ v, predVersion q = some v → v.major ≤ MAX_SAFE_INTEGER ∧ v.minor ≤ MAX_SAFE_INTEGER ∧ v.patch ≤ MAX_SAFE_INTEGER) := by
  intro s hs
  obtain ⟨p, q, rfl, vp, vq, _⟩ := h.2 s hs
  exact ⟨p, q, rfl, (valid_iff p).mp vp, (valid_iff q).mp vq⟩

/-- the numbers the range parser reads are bounded as well (it shares `number()`) -/
theorem C06_number_bounded (s r : List Char) (n : Nat) (h : number s = .ok n r) : n ≤ MAX_SAFE_INTEGER := by
  obtain ⟨_, _, _, _, _, hn, _⟩ := number_ok h
  exact hn

/-- `location()` is defined (no slice panic) for every error of either parser -/
theorem C06_location_total (s : List Char) (e : SemverError)
    (h : Version.parse s = .error e ∨ Range.parse s = .error e) : e.location ≠ none := by
  rcases h with h | h
  · exact (C17.C17_location_version s e h).2
  · rw [(C17.C17_location_range s e h).1]; simp

/-- every alternative of a well-formed range has the `(Lower, Upper)` shape that `min_version`
presupposes -/
theorem C06_min_version_shaped (r : Range) (h : r.WF) : C11.Shaped r := fun s hs =>
  let ⟨p, q, e, _⟩ := h.2 s hs
  ⟨p, q, e⟩

end Semver.C06
