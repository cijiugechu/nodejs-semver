import SemverProofs.Props.C04
import SemverProofs.Props.C02
import SemverProofs.Lemmas.Closed
/-!
# C03 — a prerelease satisfies a range only via a same-tuple prerelease comparator

On range values: a prerelease satisfies a range only inside an alternative whose bounds it meets and
one of whose bounds is a prerelease on its own major.minor.patch; build metadata never matters; the
`-0` upper bounds that x-ranges, tildes, carets and hyphen ranges generate never opt a version in.
On texts the bounds are traced back to what was written: a bound of a table entry is no bound, a
release, a `-0` upper bound, or the version of the partial itself (the enumeration of
`Lemmas/ParseWF.lean`), and a fold keeps bounds of its comparators; so the tagged bound is a
comparator written as a full `M.m.p` with a tag.  Conversely such a comparator opens the gate.
-/
namespace Semver.C03
open Semver Pred Bound

/-- some bound version of `s` is a prerelease on the same major.minor.patch as `v` -/
def taggedOnTuple (s : BoundSet) (v : Version) : Prop :=
  ∃ p, (s.lower = lo p ∨ s.upper = up p) ∧
    ∃ b, (p = inc b ∨ p = exc b) ∧ b.isPre = true ∧ sameTuple v b = true

/-- the gate of any pair of bounds, shaped `(Lower, Upper)` or not -/
theorem gate_eq (u l : Bound) (v : Version) :
    (BoundSet.mk u l).gate v =
      ((match l with | lo p => gBound p v | up _ => false) || (match u with | up q => gBound q v | lo _ => false)) := by
  cases u with
  | up q =>
    cases l with
    | lo p => exact gate_mk p q v
    | up p => cases q <;> rfl
  | lo q =>
    cases l with
    | lo p => cases p <;> rfl
    | up p => rfl

theorem gate_iff_tagged (s : BoundSet) (v : Version) : s.gate v = true ↔ taggedOnTuple s v := by
  obtain ⟨u, l⟩ := s
  rw [gate_eq, Bool.or_eq_true]
  unfold taggedOnTuple
  constructor
  · rintro (h | h)
    · cases l with
      | lo p => exact ⟨p, Or.inl rfl, (gBound_iff p v).mp h⟩
      | up p => cases h
    · cases u with
      | up q => exact ⟨q, Or.inr rfl, (gBound_iff q v).mp h⟩
      | lo q => cases h
  · rintro ⟨p, hp | hp, h⟩
    · cases (show l = lo p from hp)
      exact Or.inl ((gBound_iff p v).mpr h)
    · cases (show u = up p from hp)
      exact Or.inr ((gBound_iff p v).mpr h)

/-- a prerelease satisfies a range only inside an alternative whose bounds it meets and one of whose
bounds carries a prerelease tag on the same tuple -/
theorem C03_only_via_tag (r : Range) (v : Version) (hv : v.isPre = true)
    (h : Range.satisfies r v = true) :
    ∃ s ∈ r, s.within v = true ∧ taggedOnTuple s v := by
  obtain ⟨s, hs, hsv⟩ := (Range.satisfies_iff r v).mp h
  exact ⟨s, hs, ((satisfies_iff s v).mp hsv).1, (gate_iff_tagged s v).mp (gate_of_satisfies hsv hv)⟩

theorem C03_decided_by_bounds (r : Range) (v : Version) (s : BoundSet) (hs : s ∈ r)
    (ht : taggedOnTuple s v) : s.satisfies v = s.within v := by
  have := (gate_iff_tagged s v).mpr ht
  simp [BoundSet.satisfies, this]

theorem C03_decided_by_bounds_range (r : Range) (v : Version) (s : BoundSet) (hs : s ∈ r)
    (hw : s.within v = true) (ht : taggedOnTuple s v) : Range.satisfies r v = true := by
  rw [Range.satisfies_iff]
  exact ⟨s, hs, by rw [C03_decided_by_bounds r v s hs ht]; exact hw⟩

theorem C03_release_unaffected (r : Range) (v : Version) (hv : v.isPre = false) :
    Range.satisfies r v = Range.within r v :=
  Range.satisfies_release r hv

def Pred.setBuild (f : Version → List Ident) : Pred → Pred
  | inc b => inc { b with build := f b }
  | exc b => exc { b with build := f b }
  | unb => unb

def Bound.setBuild (f : Version → List Ident) : Bound → Bound
  | lo p => lo (Pred.setBuild f p)
  | up p => up (Pred.setBuild f p)

theorem Bound.setBuild_self (b : Bound) : Bound.setBuild (·.build) b = b := by
  cases b <;> rename_i p <;> cases p <;> rfl

theorem loCut_setBuild (g : Version → List Ident) (p : Pred) (v : Version) (x : List Ident) :
    (Pred.setBuild g p).loCut < Cut.of { v with build := x } ↔ p.loCut < Cut.of v := by
  cases p <;> simp [Pred.setBuild, le_def, lt_def, C04.C04_build_ignored]

theorem upCut_setBuild (f : Version → List Ident) (q : Pred) (v : Version) (x : List Ident) :
    Cut.of { v with build := x } < (Pred.setBuild f q).upCut ↔ Cut.of v < q.upCut := by
  cases q <;> simp [Pred.setBuild, le_def, lt_def, C04.C04_build_ignored]

theorem gBound_setBuild (f : Version → List Ident) (p : Pred) (v : Version) (x : List Ident) :
    gBound (Pred.setBuild f p) { v with build := x } = gBound p v := by
  cases p <;> rfl

theorem satisfies_setBuild (s : BoundSet) (v : Version) (f g : Version → List Ident) (x : List Ident) :
    (BoundSet.mk (Bound.setBuild f s.upper) (Bound.setBuild g s.lower)).satisfies { v with build := x } =
      s.satisfies v := by
  obtain ⟨u, l⟩ := s
  cases u with
  | lo p => cases l <;> simp [BoundSet.satisfies, BoundSet.within, Bound.setBuild]
  | up q =>
    cases l with
    | up p => simp [BoundSet.satisfies, BoundSet.within, Bound.setBuild]
    | lo p =>
      have hw : (BoundSet.mk (up (Pred.setBuild f q)) (lo (Pred.setBuild g p))).within { v with build := x } =
          (BoundSet.mk (up q) (lo p)).within v := by
        rw [Bool.eq_iff_iff, within_mk, within_mk, loCut_setBuild, upCut_setBuild]
      simp only [BoundSet.satisfies, Bound.setBuild, hw, gate_mk, gBound_setBuild]
      rfl

theorem C03_build_irrelevant_version (s : BoundSet) (v : Version) (x : List Ident) :
    s.satisfies { v with build := x } = s.satisfies v := by
  have := satisfies_setBuild s v (·.build) (·.build) x
  rwa [Bound.setBuild_self, Bound.setBuild_self] at this

theorem C03_build_irrelevant (r : Range) (v : Version) (x : List Ident) :
    Range.satisfies r { v with build := x } = Range.satisfies r v := by
  simp only [Range.satisfies, C03_build_irrelevant_version]

theorem C03_build_irrelevant_bounds (s : BoundSet) (v : Version) (f g : Version → List Ident) :
    (BoundSet.mk (Bound.setBuild f s.upper) (Bound.setBuild g s.lower)).satisfies v = s.satisfies v :=
  satisfies_setBuild s v f g v.build

theorem not_lt_dash0 (a b c : Nat) (v : Version) (ht : sameTuple v (Version.mk4 a b c 0) = true) :
    ¬ v < Version.mk4 a b c 0 := by
  rw [sameTuple_iff] at ht
  -- on the same tuple the order is the order of the tags, and no tag is below `0`
  have := cmpPre_ne_lt_zero v.pre
  rw [lt_iff_fields]
  simp only [Version.mk4] at ht ⊢
  grind

/-- nothing on tuple `a.b.c` lies below `a.b.c-0`: an exclusive upper bound `<a.b.c-0` (as produced
by caret, tilde, x-ranges and hyphen ranges) never opts a prerelease in -/
theorem C03_dash0_inert (a b c : Nat) (v : Version) (hv : v.isPre = true)
    (ht : sameTuple v (Version.mk4 a b c 0) = true) : ¬ v < Version.mk4 a b c 0 :=
  not_lt_dash0 a b c v ht

theorem C03_dash0_bound_inert (a b c : Nat) (lower : Pred) (v : Version) (hv : v.isPre = true)
    (hw : (BoundSet.mk (up (exc (Version.mk4 a b c 0))) (lo lower)).within v = true) :
    gBound (exc (Version.mk4 a b c 0)) v = false := by
  rw [within_mk, lt_upCut_exc] at hw
  refine Bool.eq_false_iff.2 fun hg => ?_
  simp only [gBound, Bool.and_eq_true] at hg
  exact C03_dash0_inert a b c v hv hg.2 hw.2

example : (BoundSet.mk (up (exc (Version.mk3 2 0 0))) (lo (inc ⟨1, 2, 3, [.alpha "rc".toList], []⟩))).satisfies
    ⟨1, 2, 3, [.alpha "rc".toList, .num 1], []⟩ = true := by decide +kernel

example : (BoundSet.mk (up (exc (Version.mk3 2 0 0))) (lo (inc ⟨1, 2, 3, [.alpha "rc".toList], []⟩))).satisfies
    ⟨1, 2, 4, [.alpha "rc".toList, .num 1], []⟩ = false := by decide +kernel

open Spec Spec.Npm

/-- the partial is a full triple with a prerelease tag, on `v`'s major.minor.patch -/
def npTagFor (p : NP) (v : Version) : Prop :=
  match p with
  | .full M m p pre _ => pre ≠ [] ∧ v.major = M ∧ v.minor = m ∧ v.patch = p
  | _ => False

def simplePartial : Simple → Option NP
  | .prim _ p => some p
  | .bare p => some p
  | .tilde p => some p
  | .caret p => some p
  | .garbage _ => none

/-- the comparator was written with a prerelease tag on `v`'s tuple -/
def simpleTagFor (s : Simple) (v : Version) : Prop := ∃ p, simplePartial s = some p ∧ npTagFor p v

def altTagFor (a : Alt) (v : Version) : Prop :=
  match a with
  | .simples l => ∃ s ∈ l, simpleTagFor s v
  | .hyphen l h => npTagFor l v ∨ npTagFor h v

/-- a bound taken from the partial's own version and tagged on `v`'s tuple: the partial is a full
triple written with that tag -/
theorem toVersion_tag {np : NP} {bld : List Ident} {v : Version}
    (hp : Version.isPre { (fromNP np).toVersion with build := bld } = true)
    (hs : sameTuple v { (fromNP np).toVersion with build := bld } = true) : npTagFor np v := by
  rw [sameTuple_iff] at hs
  cases np with
  | full M m p pre b => exact ⟨by intro h0; simp [Version.isPre, Partial.toVersion, fromNP, h0] at hp, hs⟩
  | _ => simp [Version.isPre, Partial.toVersion, fromNP] at hp

theorem boundOf_tag {np : NP} {R : Pred} {v : Version} (h : BoundOf (fromNP np) R) (ht : gBound R v = true) :
    npTagFor np v := by
  cases h with
  | unb => cases ht
  | rel a b c => simp [gBound, Version.isPre, Version.mk3] at ht
  | inc =>
    simp only [gBound, Bool.and_eq_true] at ht
    exact toVersion_tag (bld := (fromNP np).build) ht.1 ht.2
  | exc =>
    simp only [gBound, Bool.and_eq_true] at ht
    exact toVersion_tag (bld := (fromNP np).build) ht.1 ht.2
  | incNoBuild =>
    simp only [gBound, Bool.and_eq_true] at ht
    exact toVersion_tag ht.1 ht.2

theorem simple_bounds {t : Simple} {x : BoundSet} (h : evalSimple t = some x) :
    ∃ np, simplePartial t = some np ∧ TableEntry (fromNP np) (fromNP np) x := by
  cases t with
  | prim op np => exact ⟨np, rfl, primitiveSet_entry h⟩
  | bare np => exact ⟨np, rfl, partialSet_entry h⟩
  | tilde np => exact ⟨np, rfl, tildeSet_entry h⟩
  | caret np => exact ⟨np, rfl, caretSet_entry h⟩
  | garbage tok => cases h

/-- `P` is a bound one of the comparators of `l` can have as lower bound (`UpFrom`: as upper bound, where
`-0` bounds occur too): what `fold_bounds` keeps track of -/
def LoFrom (l : List Simple) (P : Pred) : Prop :=
  ∃ t ∈ l, ∃ np, simplePartial t = some np ∧ BoundOf (fromNP np) P

def UpFrom (l : List Simple) (Q : Pred) : Prop :=
  ∃ t ∈ l, ∃ np, simplePartial t = some np ∧ (BoundOf (fromNP np) Q ∨ Dash0 Q)

theorem fold_bounds (l : List Simple) (r : BoundSet) (h : r ∈ foldSets (l.map evalSimple)) :
    ∃ P Q, r = ⟨up Q, lo P⟩ ∧ LoFrom l P ∧ UpFrom l Q := by
  refine foldSets_closure (Q := fun r => ∃ P Q, r = ⟨up Q, lo P⟩ ∧ LoFrom l P ∧ UpFrom l Q) ?_ ?_ r h
  · exact fun hs ho hi => intersect_bounds hs ho hi
  · intro x hx
    obtain ⟨t, ht, hx⟩ := List.mem_map.mp hx
    obtain ⟨np, hnp, P, Q, hn, hP, hQ, _⟩ := simple_bounds hx
    exact ⟨P, Q, new_eq_some hn, ⟨t, ht, np, hnp, hP⟩, ⟨t, ht, np, hnp, hQ⟩⟩

theorem hyphen_bounds (l h : NP) (x : BoundSet) (hx : x ∈ evalAlt (.hyphen l h)) :
    TableEntry (fromNP l) (fromNP h) x := evalAlt_hyphen_entry hx

/-- a tagged upper bound of a table entry that `v` is below is the written triple: the `-0` bounds
are not tagged for such a `v` -/
theorem upper_tag {np : NP} {Q : Pred} {v : Version} (hQ : BoundOf (fromNP np) Q ∨ Dash0 Q)
    (hm : Cut.of v < Q.upCut) (hg : gBound Q v = true) : npTagFor np v := by
  rcases hQ with hfq | ⟨a, b, c, rfl⟩
  · exact boundOf_tag hfq hg
  · simp only [gBound, Bool.and_eq_true] at hg
    exact absurd (by simpa using hm) (not_lt_dash0 a b c v hg.2)

/-- one alternative of a tree: a version within it that passes the gate was opted in by a comparator
written with a tag on its tuple -/
theorem C03_tree (a : Alt) (x : BoundSet) (hx : x ∈ evalAlt a) (v : Version)
    (hw : x.within v = true) (hg : x.gate v = true) : altTagFor a v := by
  cases a with
  | simples l =>
    obtain ⟨P, Q, rfl, hP, hQ⟩ := fold_bounds l x hx
    rw [gate_mk, Bool.or_eq_true] at hg
    rw [within_mk] at hw
    rcases hg with hg | hg
    · obtain ⟨t, ht, np, hnp, hfp⟩ := hP
      exact ⟨t, ht, np, hnp, boundOf_tag hfp hg⟩
    · obtain ⟨t, ht, np, hnp, hfq⟩ := hQ
      exact ⟨t, ht, np, hnp, upper_tag hfq hw.2 hg⟩
  | hyphen l h =>
    obtain ⟨P, Q, hn, hP, hQ, _⟩ := hyphen_bounds l h x hx
    cases new_eq_some hn
    rw [gate_mk, Bool.or_eq_true] at hg
    rw [within_mk] at hw
    rcases hg with hg | hg
    · exact Or.inl (boundOf_tag hP hg)
    · exact Or.inr (upper_tag hQ hw.2 hg)

/-- the whole tree: a prerelease that satisfies its alternatives was opted in -/
theorem C03_ast (r : Ast) (v : Version) (hv : v.isPre = true) (hsat : Range.satisfies (evalAst r) v = true) :
    ∃ a ∈ r, (∃ x ∈ evalAlt a, x.within v = true) ∧ altTagFor a v := by
  rw [Range.satisfies_iff] at hsat
  obtain ⟨x, hx, hsx⟩ := hsat
  obtain ⟨a, ha, hxa⟩ := mem_evalAst.mp hx
  have hw := ((satisfies_iff x v).mp hsx).1
  exact ⟨a, ha, ⟨x, hxa, hw⟩, C03_tree a x hxa v hw (gate_of_satisfies hsx hv)⟩

theorem C03_textG {G : List Char → Prop} (hG : GarbageOK G) (r : Ast) (s : List Char) (hs : AstTextG G r s)
    (R : Range) (hp : Range.parse s = .ok R) (v : Version) (hv : v.isPre = true)
    (hsat : Range.satisfies R v = true) : ∃ a ∈ r, (∃ x ∈ evalAlt a, x.within v = true) ∧ altTagFor a v := by
  cases parse_textG_ok hG hs hp
  exact C03_ast r v hv hsat

/-- for every text of the npm range grammar that parses, a version carrying a
prerelease tag satisfies the parsed range only if, inside one alternative of the text whose bounds
it meets, some comparator was written with a prerelease tag on the version's major.minor.patch -/
theorem C03_text (r : Ast) (s : List Char) (hs : AstText r s) (R : Range) (hp : Range.parse s = .ok R)
    (v : Version) (hv : v.isPre = true) (hsat : Range.satisfies R v = true) :
    ∃ a ∈ r, (∃ x ∈ evalAlt a, x.within v = true) ∧ altTagFor a v :=
  C03_textG garbageTok_ok r s hs R hp v hv hsat

theorem C03_text_release (r : Ast) (s : List Char) (hs : AstText r s) (R : Range) (hp : Range.parse s = .ok R)
    (v : Version) (hv : v.isPre = false) :
    Range.satisfies R v = (evalAst r).any (·.within v) := by
  cases parse_textG_ok garbageTok_ok hs hp
  exact C03_release_unaffected _ v hv

theorem gate_new_lo {P Q : Pred} {y : BoundSet} {v : Version} (h : BoundSet.new (lo P) (up Q) = some y)
    (hg : gBound P v = true) : y.gate v = true := by
  rw [new_eq_some h, gate_mk, hg, Bool.true_or]

theorem gate_new_up {P Q : Pred} {y : BoundSet} {v : Version} (h : BoundSet.new (lo P) (up Q) = some y)
    (hg : gBound Q v = true) : y.gate v = true := by
  rw [new_eq_some h, gate_mk, hg, Bool.or_true]

theorem simple_tag_gate {t : Simple} {y : BoundSet} {v : Version} (h : evalSimple t = some y)
    (ht : simpleTagFor t v) : y.gate v = true := by
  obtain ⟨np, hnp, htag⟩ := ht
  cases np with
  | any => exact absurd htag id
  | maj M => exact absurd htag id
  | majMin M m => exact absurd htag id
  | full M m p pre build =>
    obtain ⟨hpre, h1, h2, h3⟩ := htag
    -- a bound carrying the written triple is tagged on `v`'s tuple, whatever its build metadata;
    -- every table row for a full triple has one: the upper bound for `<`, `<=`, else the lower
    have hg : ∀ bld, (Version.isPre ⟨M, m, p, pre, bld⟩ && sameTuple v ⟨M, m, p, pre, bld⟩) = true := by
      intro bld
      rw [Bool.and_eq_true, sameTuple_iff]
      refine ⟨?_, h1, h2, h3⟩
      obtain ⟨a, as, rfl⟩ := List.exists_cons_of_ne_nil hpre
      rfl
    cases t with
    | prim op np' =>
      cases hnp
      cases op
      · exact gate_new_up h (hg _)
      · exact gate_new_up h (hg _)
      · exact gate_new_lo h (hg _)
      · exact gate_new_lo h (hg _)
      · exact gate_new_lo h (hg _)
    | bare np' =>
      cases hnp
      exact gate_new_lo h (hg _)
    | tilde np' =>
      cases hnp
      exact gate_new_lo h (hg _)
    | caret np' =>
      cases hnp
      -- `caretSet` tests the major for `0` first
      cases M with
      | zero => exact gate_new_lo h (hg _)
      | succ k => exact gate_new_lo h (hg _)
    | garbage tok => cases hnp

/-- one comparator list: if `v` lies within its folded bounds and some valid comparator of it was
written with a tag on `v`'s tuple, the bounds alone decide -/
theorem C03_tree_decided (l : List Simple) (x : BoundSet) (hx : x ∈ evalAlt (.simples l)) (v : Version)
    (hw : x.within v = true) (t : Simple) (ht : t ∈ l) (hvalid : (evalSimple t).isSome = true)
    (htag : simpleTagFor t v) : x.satisfies v = true := by
  rw [satisfies_iff]
  refine ⟨hw, ?_⟩
  cases hv : v.isPre with
  | false => exact Or.inl rfl
  | true =>
    obtain ⟨y, hy⟩ := Option.isSome_iff_exists.mp hvalid
    -- the gate of the fold is open as soon as the gate of one comparator is (`C02.fold_sem`)
    exact Or.inr (((C02.fold_sem_mem (evalSimple_map_wf l) hx v).2 hv hw).mpr
      ⟨y, List.mem_filterMap.mpr ⟨some y, List.mem_map.mpr ⟨t, ht, hy⟩, rfl⟩, simple_tag_gate hy htag⟩)

theorem C03_text_decided (r : Ast) (s : List Char) (hs : AstText r s) (R : Range) (hp : Range.parse s = .ok R)
    (l : List Simple) (ha : Alt.simples l ∈ r) (x : BoundSet) (hx : x ∈ evalAlt (.simples l)) (v : Version)
    (hw : x.within v = true) (t : Simple) (ht : t ∈ l) (hvalid : (evalSimple t).isSome = true)
    (htag : simpleTagFor t v) : Range.satisfies R v = true := by
  cases parse_textG_ok garbageTok_ok hs hp
  rw [Range.satisfies_iff]
  exact ⟨x, mem_evalAst.mpr ⟨_, ha, hx⟩, C03_tree_decided l x hx v hw t ht hvalid htag⟩

/-! non-vacuity: `>=1.2.3-alpha <2` opts `1.2.3-beta` in -/
example : simpleTagFor (.prim .ge (.full 1 2 3 [.alpha ['a']] [])) ⟨1, 2, 3, [.alpha ['b']], []⟩ :=
  ⟨_, rfl, by simp [npTagFor]⟩

theorem C03_text_closed (r : Ast) (s : List Char) (hs : AstTextG ClosedGarbage r s) (R : Range)
    (hp : Range.parse s = .ok R) (v : Version) (hv : v.isPre = true) (hsat : Range.satisfies R v = true) :
    ∃ a ∈ r, (∃ x ∈ evalAlt a, x.within v = true) ∧ altTagFor a v :=
  C03_textG closedGarbage_ok r s hs R hp v hv hsat

end Semver.C03
