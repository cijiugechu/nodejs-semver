import SemverModel.VersionParse
/-!
# The text primitives, and what the version-level parsers leave

`span p` cuts after the longest prefix in the class `p` and nowhere else (`span_eq_iff`).  Every parser
returns a suffix of its input: the loops of the range parser recurse on its length, and C06's "cannot
hang" argument reuses that.
-/
namespace Semver

theorem utf8Len_nil : utf8Len [] = 0 := rfl

theorem utf8Len_cons (c : Char) (t : List Char) : utf8Len (c :: t) = c.utf8Size + utf8Len t := by
  simp [utf8Len]

theorem utf8Len_append (a b : List Char) : utf8Len (a ++ b) = utf8Len a + utf8Len b := by
  simp [utf8Len, List.map_append, List.sum_append]

theorem splitAtByte_prefix (p r : List Char) : splitAtByte (p ++ r) (utf8Len p) = some (p, r) := by
  induction p with
  | nil => cases r <;> rfl
  | cons c cs ih =>
    obtain ⟨k, hk⟩ := Nat.exists_eq_succ_of_ne_zero (Nat.pos_iff_ne_zero.1 c.utf8Size_pos)
    rw [utf8Len_cons, hk, Nat.succ_add]
    simp only [List.cons_append, splitAtByte, hk]
    rw [if_pos (Nat.succ_le_succ (Nat.le_add_right k _)), Nat.succ_sub_succ, Nat.add_sub_cancel_left, ih]

theorem span_append (p : Char → Bool) (a rest : List Char) (ha : a.all p = true)
    (hr : ∀ c, rest.head? = some c → p c = false) : span p (a ++ rest) = (a, rest) := by
  induction a with
  | nil =>
    cases rest with
    | nil => rfl
    | cons c cs => simp [span, hr c rfl]
  | cons d ds ih =>
    simp only [List.all_cons, Bool.and_eq_true] at ha
    simp [span, ha.1, ih ha.2]

theorem span_eq_iff {p : Char → Bool} {s a r : List Char} :
    span p s = (a, r) ↔ s = a ++ r ∧ a.all p = true ∧ ∀ c, r.head? = some c → p c = false := by
  constructor
  · intro h
    induction s generalizing a r with
    | nil => cases h; simp
    | cons c cs ih =>
      simp only [span] at h
      split at h
      next hc =>
        cases h
        obtain ⟨h1, h2, h3⟩ := ih rfl
        exact ⟨by rw [List.cons_append, ← h1], by simp [hc, h2], h3⟩
      next hc =>
        cases h
        exact ⟨rfl, rfl, fun d hd => by simp at hd; subst hd; simpa using hc⟩
  · rintro ⟨rfl, ha, hr⟩
    exact span_append p a r ha hr

theorem span_suffix (p : Char → Bool) (s : List Char) : (span p s).2 <:+ s :=
  ⟨(span p s).1, (span_eq_iff.1 rfl).1.symm⟩

theorem dropBlanks_suffix (s : List Char) : dropBlanks s <:+ s := span_suffix _ _

theorem dropBlanks_length_le (s : List Char) : (dropBlanks s).length ≤ s.length :=
  (dropBlanks_suffix s).length_le

/-- the kinds `number()` attaches to its error -/
def numKind (k : Option EKind) : Prop :=
  k = none ∨ k = some .parseIntOverflow ∨ ∃ n, k = some (.maxInt n)

theorem number_spec (s : List Char) :
    match number s with
    | .ok n r => ∃ a, s = a ++ r ∧ a.all isDigit = true ∧ a ≠ [] ∧ valOf a = n ∧ n ≤ MAX_SAFE_INTEGER ∧
        (∀ c, r.head? = some c → isDigit c = false)
    | .err e => e.rest = s ∧ numKind e.kind := by
  obtain ⟨h1, h2, h3⟩ := span_eq_iff.1 (rfl : span isDigit s = _)
  unfold number
  simp only
  by_cases h0 : (span isDigit s).1.isEmpty = true
  · rw [if_pos h0]; exact ⟨rfl, Or.inl rfl⟩
  rw [if_neg h0]
  by_cases h4 : U64 ≤ valOf (span isDigit s).1
  · rw [if_pos h4]; exact ⟨rfl, Or.inr (Or.inl rfl)⟩
  rw [if_neg h4]
  by_cases h5 : MAX_SAFE_INTEGER < valOf (span isDigit s).1
  · rw [if_pos h5]; exact ⟨rfl, Or.inr (Or.inr ⟨_, rfl⟩)⟩
  rw [if_neg h5]
  exact ⟨_, h1, h2, by intro h; simp [h] at h0, rfl, Nat.not_lt.1 h5, h3⟩

theorem number_ok {s r : List Char} {n : Nat} (h : number s = .ok n r) :
    ∃ a, s = a ++ r ∧ a.all isDigit = true ∧ a ≠ [] ∧ valOf a = n ∧ n ≤ MAX_SAFE_INTEGER ∧
      (∀ c, r.head? = some c → isDigit c = false) := by
  have := number_spec s
  rwa [h] at this

theorem number_err {s : List Char} {e : PErr} (h : number s = .err e) : e.rest = s ∧ numKind e.kind := by
  have := number_spec s
  rwa [h] at this

theorem identifier_ok {s r : List Char} {i : Ident} (h : identifier s = .ok i r) :
    ∃ t, s = t ++ r ∧ t ≠ [] ∧ t.all isIdChar = true ∧ i = classify t ∧
      (∀ c, r.head? = some c → isIdChar c = false) := by
  obtain ⟨h1, h2, h3⟩ := span_eq_iff.1 (rfl : span isIdChar s = _)
  unfold identifier at h
  simp only at h
  split at h
  · cases h
  · next h0 =>
    cases h
    exact ⟨_, h1, by intro h; simp [h] at h0, h2, rfl, h3⟩

theorem identifier_length {s a r} (h : identifier s = .ok a r) : r.length < s.length := by
  obtain ⟨t, rfl, ht, _⟩ := identifier_ok h
  cases t with
  | nil => exact absurd rfl ht
  | cons c cs => simp only [List.cons_append, List.length_cons, List.length_append]; omega

theorem number_suffix {s v r} (h : number s = .ok v r) : r <:+ s := by
  obtain ⟨a, hs, _⟩ := number_ok h
  exact ⟨a, hs.symm⟩

theorem identifier_suffix {s a r} (h : identifier s = .ok a r) : r <:+ s := by
  obtain ⟨t, hs, _⟩ := identifier_ok h
  exact ⟨t, hs.symm⟩

theorem identTail_suffix (fuel : Nat) (s : List Char) : (identTail fuel s).2 <:+ s := by
  induction fuel generalizing s with
  | zero => exact List.suffix_refl s
  | succ n ih =>
    unfold identTail
    split
    · split
      · next h => exact ((ih _).trans (identifier_suffix h)).trans (List.suffix_cons _ _)
      · exact List.suffix_refl _
    · exact List.suffix_refl _

theorem identList_suffix {s a r} (h : identList s = .ok a r) : r <:+ s := by
  unfold identList at h
  split at h
  · cases h
  · next h' => cases h; exact (identTail_suffix _ _).trans (identifier_suffix h')

theorem stripHyphen_suffix (s : List Char) : stripHyphen s <:+ s := by
  unfold stripHyphen
  split
  · exact List.suffix_cons _ _
  · exact List.suffix_refl _

theorem preRelease_suffix {s a r} (h : preRelease s = .ok a r) : r <:+ s := by
  unfold preRelease at h
  split at h
  · next h' => cases h; exact (identList_suffix h').trans (stripHyphen_suffix s)
  · cases h

theorem buildMeta_suffix {s a r} (h : buildMeta s = .ok a r) : r <:+ s := by
  unfold buildMeta at h
  split at h
  · split at h
    · next h' => cases h; exact (identList_suffix h').trans (List.suffix_cons _ _)
    · cases h
  · cases h

theorem extras_suffix (s : List Char) : (extras s).2 <:+ s := by
  unfold extras
  split
  · next h1 =>
    split
    · next h2 => exact (buildMeta_suffix h2).trans (preRelease_suffix h1)
    · exact preRelease_suffix h1
  · split
    · next h2 => exact buildMeta_suffix h2
    · exact List.suffix_refl _

end Semver
