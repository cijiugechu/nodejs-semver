import SemverModel.Progress
import SemverModel.Range
/-!
# `Range::parse` (`src/range.rs:361-385, 595-1125`)

Inside `simple` every error is swallowed by `alt` (its last branch, `garbage`, always succeeds),
so the sub-parsers return `Option`: `none` = backtrack.  Tables are written arm for arm.
-/
namespace Semver
open Pred Bound

structure Partial where
  major : Option Nat
  minor : Option Nat
  patch : Option Nat
  pre : List Ident
  build : List Ident
deriving Repr

/-- `From<Partial> for Version` -/
def Partial.toVersion (p : Partial) : Version :=
  ⟨p.major.getD 0, p.minor.getD 0, p.patch.getD 0, p.pre, p.build⟩

/-- `component()`: `alt((x_or_asterisk -> None, number -> Some))` -/
def component (s : List Char) : Option (Option Nat × List Char) :=
  match s with
  | 'x' :: t => some (none, t)
  | 'X' :: t => some (none, t)
  | '*' :: t => some (none, t)
  | _ =>
    match number s with
    | .ok v r => some (some v, r)
    | .err _ => none

/-- `opt(preceded(literal("."), component))` -/
def dotComponent (s : List Char) : Option (Option Nat) × List Char :=
  match s with
  | '.' :: t =>
    match component t with
    | some (c, r) => (some c, r)
    | none => (none, s)
  | _ => (none, s)

/-- `opt(literal("v"))` -/
def stripV (s : List Char) : List Char :=
  match s with
  | 'v' :: t => t
  | _ => s

/-- `partial_version()` after the optional `v` and blanks, including the normalisation after the first
wildcard -/
def partialCore (s2 : List Char) : Option (Partial × List Char) :=
  match component s2 with
  | none => none
  | some (major, r1) =>
    let mi := dotComponent r1
    let pa := dotComponent mi.2
    let ex := if pa.1.isSome then extras pa.2 else (([], []), pa.2)
    let minor := major.bind (fun _ => mi.1.join)
    let patch := minor.bind (fun _ => pa.1.join)
    let q := if patch.isSome then ex.1 else ([], [])
    some (⟨major, minor, patch, q.1, q.2⟩, ex.2)

/-- `partial_version()` -/
def partialVersion (s : List Char) : Option (Partial × List Char) :=
  partialCore (dropBlanks (stripV s))

inductive Operation where
  | exact | gt | ge | lt | le
deriving DecidableEq, Repr

/-- `operation()`: `alt((">=", ">", "=", "<=", "<"))` -/
-- written as tests on the first character with a second look for `=`, the order of `alt` being
-- immaterial then
def operation (s : List Char) : Option (Operation × List Char) :=
  match s with
  | [] => none
  | c :: rest =>
    if c = '>' then
      match rest with
      | '=' :: t => some (.ge, t)
      | _ => some (.gt, rest)
    else if c = '=' then some (.exact, rest)
    else if c = '<' then
      match rest with
      | '=' :: t => some (.le, t)
      | _ => some (.lt, rest)
    else none

def zero0 : Version := Version.mk4 0 0 0 0

/-- the match of `primitive()` -/
def primitiveSet (op : Operation) (p : Partial) : Option BoundSet :=
  match op, p with
  | .gt, ⟨none, _, _, _, _⟩ => BoundSet.atMost (exc zero0)
  | .lt, ⟨none, _, _, _, _⟩ => BoundSet.atMost (exc zero0)
  | _, ⟨none, _, _, _, _⟩ => BoundSet.atLeast (inc (Version.mk3 0 0 0))
  | .ge, p => BoundSet.atLeast (inc p.toVersion)
  | .gt, ⟨some major, some minor, none, _, _⟩ => BoundSet.atLeast (inc (Version.mk3 major (minor + 1) 0))
  | .gt, ⟨some major, none, none, _, _⟩ => BoundSet.atLeast (inc (Version.mk3 (major + 1) 0 0))
  | .gt, p => BoundSet.atLeast (exc p.toVersion)
  | .lt, ⟨some major, some minor, none, _, _⟩ => BoundSet.atMost (exc (Version.mk4 major minor 0 0))
  | .lt, ⟨major, minor, patch, pre, build⟩ =>
    BoundSet.atMost (exc ⟨major.getD 0, minor.getD 0, patch.getD 0, pre, build⟩)
  | .le, ⟨major, none, none, _, _⟩ =>
    BoundSet.atMost (inc (Version.mk3 (major.getD 0) MAX_SAFE_INTEGER MAX_SAFE_INTEGER))
  | .le, ⟨major, minor, none, _, _⟩ =>
    BoundSet.atMost (inc (Version.mk3 (major.getD 0) (minor.getD 0) MAX_SAFE_INTEGER))
  | .le, p => BoundSet.atMost (inc p.toVersion)
  | .exact, ⟨some major, some minor, some patch, pre, _⟩ => BoundSet.exact ⟨major, minor, patch, pre, []⟩
  | .exact, ⟨some major, some minor, _, _, _⟩ =>
    BoundSet.new (lo (inc (Version.mk3 major minor 0))) (up (exc (Version.mk4 major (minor + 1) 0 0)))
  | .exact, ⟨some major, _, _, _, _⟩ =>
    BoundSet.new (lo (inc (Version.mk3 major 0 0))) (up (exc (Version.mk4 (major + 1) 0 0 0)))

/-- `primitive()`: `(operation, preceded(space0, partial_version))` -/
def primitive (s : List Char) : Option (Option BoundSet × List Char) :=
  match operation s with
  | none => none
  | some (op, r) =>
    match partialVersion (dropBlanks r) with
    | none => none
    | some (p, r') => some (primitiveSet op p, r')

/-- the match of `partial()` -/
def partialSet (p : Partial) : Option BoundSet :=
  match p with
  | ⟨none, _, _, _, _⟩ => BoundSet.atLeast (inc (Version.mk3 0 0 0))
  | ⟨some major, none, _, _, _⟩ =>
    BoundSet.new (lo (inc (Version.mk3 major 0 0))) (up (exc (Version.mk4 (major + 1) 0 0 0)))
  | ⟨some major, some minor, none, _, _⟩ =>
    BoundSet.new (lo (inc (Version.mk3 major minor 0))) (up (exc (Version.mk4 major (minor + 1) 0 0)))
  | p => BoundSet.exact p.toVersion

/-- `partial()` -/
def partialP (s : List Char) : Option (Option BoundSet × List Char) :=
  match partialVersion s with
  | none => none
  | some (p, r) => some (partialSet p, r)

/-- `opt(literal(">"))` -/
def stripGt (s : List Char) : Bool × List Char :=
  match s with
  | '>' :: t => (true, t)
  | _ => (false, s)

/-- `tilde_gt()`: `("~", space0, opt(">"), space0)`; the flag says whether `>` was present -/
def tildeGt (s : List Char) : Option (Bool × List Char) :=
  match s with
  | '~' :: t =>
    let g := stripGt (dropBlanks t)
    some (g.1, dropBlanks g.2)
  | _ => none

/-- the match of `tilde()` -/
def tildeSet (gt : Bool) (p : Partial) : Option BoundSet :=
  match gt, p with
  | _, ⟨none, _, _, _, _⟩ => BoundSet.atLeast (inc (Version.mk3 0 0 0))
  | true, ⟨some major, none, none, _, _⟩ =>
    BoundSet.new (lo (inc (Version.mk3 major 0 0))) (up (exc (Version.mk4 (major + 1) 0 0 0)))
  | true, ⟨some major, some minor, patch, pre, _⟩ =>
    BoundSet.new (lo (inc ⟨major, minor, patch.getD 0, pre, []⟩)) (up (exc (Version.mk4 major (minor + 1) 0 0)))
  | false, ⟨some major, some minor, some patch, pre, _⟩ =>
    BoundSet.new (lo (inc ⟨major, minor, patch, pre, []⟩)) (up (exc (Version.mk4 major (minor + 1) 0 0)))
  | false, ⟨some major, some minor, none, _, _⟩ =>
    BoundSet.new (lo (inc (Version.mk3 major minor 0))) (up (exc (Version.mk4 major (minor + 1) 0 0)))
  | false, ⟨some major, none, none, _, _⟩ =>
    BoundSet.new (lo (inc (Version.mk3 major 0 0))) (up (exc (Version.mk4 (major + 1) 0 0 0)))
  | _, _ => none

/-- `tilde()` -/
def tilde (s : List Char) : Option (Option BoundSet × List Char) :=
  match tildeGt s with
  | none => none
  | some (gt, r) =>
    match partialVersion r with
    | none => none
    | some (p, r') => some (tildeSet gt p, r')

/-- the match of `caret()` -/
def caretSet (p : Partial) : Option BoundSet :=
  match p with
  | ⟨none, _, _, _, _⟩ => BoundSet.atLeast (inc (Version.mk3 0 0 0))
  | ⟨some 0, none, none, _, _⟩ => BoundSet.atMost (exc (Version.mk4 1 0 0 0))
  | ⟨some 0, some minor, none, _, _⟩ =>
    BoundSet.new (lo (inc (Version.mk3 0 minor 0))) (up (exc (Version.mk4 0 (minor + 1) 0 0)))
  | ⟨some major, none, none, _, _⟩ =>
    BoundSet.new (lo (inc (Version.mk3 major 0 0))) (up (exc (Version.mk4 (major + 1) 0 0 0)))
  | ⟨some major, some _minor, none, _, _⟩ =>
    BoundSet.new (lo (inc (Version.mk3 major _minor 0))) (up (exc (Version.mk4 (major + 1) 0 0 0)))
  | ⟨some major, some minor, some patch, pre, _⟩ =>
    BoundSet.new (lo (inc ⟨major, minor, patch, pre, []⟩))
      (up (exc (match major, minor, patch with
        | 0, 0, n => Version.mk4 0 0 (n + 1) 0
        | 0, n, _ => Version.mk4 0 (n + 1) 0 0
        | n, _, _ => Version.mk4 (n + 1) 0 0 0)))
  | _ => none

/-- `caret()`: `preceded(("^", space0), partial_version)` -/
def caret (s : List Char) : Option (Option BoundSet × List Char) :=
  match s with
  | '^' :: t =>
    match partialVersion (dropBlanks t) with
    | none => none
    | some (p, r) => some (caretSet p, r)
  | _ => none

/-- `space1` -/
def blanks1 (s : List Char) : Option (List Char) :=
  match s with
  | c :: t => if isBlank c then some (dropBlanks t) else none
  | [] => none

/-- the upper predicate of a hyphen range -/
def hyphenUpper (p : Partial) : Pred :=
  match p with
  | ⟨none, _, _, _, _⟩ => unb
  | ⟨some major, none, none, _, _⟩ => exc (Version.mk4 (major + 1) 0 0 0)
  | ⟨some major, some minor, none, _, _⟩ => exc (Version.mk4 major (minor + 1) 0 0)
  | p => inc p.toVersion

def hyphenSet (lower : Option Partial) (upper : Pred) : Option BoundSet :=
  match lower with
  | some l => BoundSet.new (lo (inc l.toVersion)) (up upper)
  | none =>
    match upper with
    | unb => BoundSet.atLeast (inc (Version.mk3 0 0 0))
    | u => BoundSet.atMost u

/-- `opt(partial_version)` -/
def optPartial (s : List Char) : Option Partial × List Char :=
  match partialVersion s with
  | some (p, r) => (some p, r)
  | none => (none, s)

/-- `literal("-")` -/
def dash (s : List Char) : Option (List Char) :=
  match s with
  | '-' :: r => some r
  | _ => none

/-- the upper part of `hyphen()`: `space1 "-" space1 partial_version` -/
def hyphenRest (s : List Char) : Option (Partial × List Char) :=
  match blanks1 s with
  | none => none
  | some r1 =>
    match dash r1 with
    | none => none
    | some r2 =>
      match blanks1 r2 with
      | none => none
      | some r3 => partialVersion r3

/-- `hyphen()`: `opt(partial_version) space1 "-" space1 partial_version` -/
def hyphen (s : List Char) : Option (Option BoundSet × List Char) :=
  let l := optPartial s
  match hyphenRest l.2 with
  | none => none
  -- `lower.filter(|p| p.major.is_some())`: a wildcard on the left of the hyphen puts no lower limit
  | some (u, r4) => some (hyphenSet (l.1.filter (·.major.isSome)) (hyphenUpper u), r4)

/-- `peek(alt((space1, literal("||"), eof)))` -/
def atEnd (s : List Char) : Bool :=
  match s with
  | [] => true
  | '|' :: '|' :: _ => true
  | c :: _ => isBlank c

/-- `garbage()`: consume up to the next blank, `||` or end of input -/
def garbage : List Char → List Char
  | [] => []
  | c :: cs => if atEnd (c :: cs) then c :: cs else garbage cs

def terminated (r : Option (Option BoundSet × List Char)) : Option (Option BoundSet × List Char) :=
  match r with
  | some (b, rest) => if atEnd rest then some (b, rest) else none
  | none => none

/-- `simple()`: first alternative that succeeds and is followed by blank / `||` / end -/
def simple (s : List Char) : Option BoundSet × List Char :=
  match terminated (hyphen s) with
  | some x => x
  | none =>
  match terminated (primitive s) with
  | some x => x
  | none =>
  match terminated (partialP s) with
  | some x => x
  | none =>
  match terminated (tilde s) with
  | some x => x
  | none =>
  match terminated (caret s) with
  | some x => x
  | none => (none, garbage s)

/-! what a successful production went through -/

theorem component_some {s r : List Char} {c : Option Nat} (h : component s = some (c, r)) :
    (c = none ∧ ∃ w, (w = 'x' ∨ w = 'X' ∨ w = '*') ∧ s = w :: r) ∨
      ∃ n, c = some n ∧ number s = .ok n r := by
  unfold component at h
  split at h
  · cases h
    exact .inl ⟨rfl, _, .inl rfl, rfl⟩
  · cases h
    exact .inl ⟨rfl, _, .inr (.inl rfl), rfl⟩
  · cases h
    exact .inl ⟨rfl, _, .inr (.inr rfl), rfl⟩
  · split at h
    · rename_i n r' hn
      cases h
      exact .inr ⟨n, rfl, hn⟩
    · cases h

theorem dotComponent_some {s : List Char} {c : Option Nat} (h : (dotComponent s).1 = some c) :
    ∃ t, s = '.' :: t ∧ component t = some (c, (dotComponent s).2) := by
  unfold dotComponent at h ⊢
  split at h
  · rename_i t
    split at h
    · rename_i c' r hc
      cases h
      exact ⟨t, rfl, hc⟩
    · cases h
  · cases h

/-- the three components as they were read, the normalisation after the first wildcard, and the
qualifier, which is kept only behind a numeric patch -/
theorem partialCore_some {s rest : List Char} {p : Partial} (h : partialCore s = some (p, rest)) :
    ∃ r1 mi r2 pa r3, component s = some (p.major, r1) ∧ dotComponent r1 = (mi, r2) ∧
      dotComponent r2 = (pa, r3) ∧
      p.minor = p.major.bind (fun _ => mi.join) ∧ p.patch = p.minor.bind (fun _ => pa.join) ∧
      p.pre = (if p.patch.isSome then (extras r3).1.1 else []) ∧
      p.build = (if p.patch.isSome then (extras r3).1.2 else []) ∧
      rest = if pa.isSome then (extras r3).2 else r3 := by
  unfold partialCore at h
  cases hc : component s with
  | none =>
    rw [hc] at h
    cases h
  | some x =>
    obtain ⟨major, r1⟩ := x
    cases h1 : dotComponent r1 with | mk mi r2
    cases h2 : dotComponent r2 with | mk pa r3
    rw [hc] at h
    simp only at h
    rw [h1] at h
    simp only at h
    rw [h2] at h
    cases h
    refine ⟨r1, mi, r2, pa, r3, rfl, h1, h2, rfl, rfl, ?_⟩
    generalize major.bind (fun _ => mi.join) = minor
    cases minor <;> rcases pa with _ | _ | c <;> simp

theorem partialVersion_some {s rest : List Char} {p : Partial} (h : partialVersion s = some (p, rest)) :
    partialCore (dropBlanks (stripV s)) = some (p, rest) := h

theorem blanks1_some {s r : List Char} (h : blanks1 s = some r) :
    ∃ c u, s = c :: u ∧ isBlank c = true ∧ r = dropBlanks u := by
  unfold blanks1 at h
  split at h
  · rename_i c u
    split at h
    · rename_i hc
      cases h
      exact ⟨c, u, rfl, hc, rfl⟩
    · cases h
  · cases h

theorem dash_some {s r : List Char} (h : dash s = some r) : s = '-' :: r := by
  unfold dash at h
  split at h
  · cases h; rfl
  · cases h

theorem primitive_some {s : List Char} {o : Option BoundSet} {r : List Char} (h : primitive s = some (o, r)) :
    ∃ op r1 p, operation s = some (op, r1) ∧ partialVersion (dropBlanks r1) = some (p, r) ∧
      o = primitiveSet op p := by
  unfold primitive at h
  split at h
  · cases h
  · rename_i op r1 ho
    split at h
    · cases h
    · rename_i p r' hp
      cases h
      exact ⟨op, r1, p, ho, hp, rfl⟩

theorem partialP_some {s : List Char} {o : Option BoundSet} {r : List Char} (h : partialP s = some (o, r)) :
    ∃ p, partialVersion s = some (p, r) ∧ o = partialSet p := by
  unfold partialP at h
  split at h
  · cases h
  · rename_i p r' hp
    cases h
    exact ⟨p, hp, rfl⟩

theorem tilde_some {s : List Char} {o : Option BoundSet} {r : List Char} (h : tilde s = some (o, r)) :
    ∃ g r1 p, tildeGt s = some (g, r1) ∧ partialVersion r1 = some (p, r) ∧ o = tildeSet g p := by
  unfold tilde at h
  split at h
  · cases h
  · rename_i g r1 hg
    split at h
    · cases h
    · rename_i p r' hp
      cases h
      exact ⟨g, r1, p, hg, hp, rfl⟩

theorem caret_some {s : List Char} {o : Option BoundSet} {r : List Char} (h : caret s = some (o, r)) :
    ∃ u p, s = '^' :: u ∧ partialVersion (dropBlanks u) = some (p, r) ∧ o = caretSet p := by
  unfold caret at h
  split at h
  · rename_i u
    split at h
    · cases h
    · rename_i p r' hp
      cases h
      exact ⟨u, p, rfl, hp, rfl⟩
  · cases h

theorem hyphen_some {s : List Char} {o : Option BoundSet} {r : List Char} (h : hyphen s = some (o, r)) :
    ∃ u, hyphenRest (optPartial s).2 = some (u, r) ∧
      o = hyphenSet ((optPartial s).1.filter (·.major.isSome)) (hyphenUpper u) := by
  unfold hyphen at h
  simp only at h
  split at h
  · cases h
  · rename_i u r4 h4
    cases h
    exact ⟨u, h4, rfl⟩

theorem hyphenRest_some {s : List Char} {u : Partial} {r : List Char} (h : hyphenRest s = some (u, r)) :
    ∃ r1 r2 r3, blanks1 s = some r1 ∧ dash r1 = some r2 ∧ blanks1 r2 = some r3 ∧
      partialVersion r3 = some (u, r) := by
  unfold hyphenRest at h
  split at h
  · cases h
  · rename_i r1 h1
    split at h
    · cases h
    · rename_i r2 h2
      split at h
      · cases h
      · rename_i r3 h3; exact ⟨r1, r2, r3, h1, h2, h3, h⟩

theorem optPartial_some {s : List Char} {p : Partial} (h : (optPartial s).1 = some p) :
    ∃ r, partialVersion s = some (p, r) := by
  unfold optPartial at h
  split at h
  · rename_i p' r hp
    cases h
    exact ⟨r, hp⟩
  · cases h

theorem terminated_some {r : Option (Option BoundSet × List Char)} {x : Option BoundSet × List Char}
    (h : terminated r = some x) : r = some x ∧ atEnd x.2 = true := by
  unfold terminated at h
  split at h
  · split at h
    · cases h; exact ⟨rfl, by assumption⟩
    · cases h
  · cases h

/-- what `simple` returns: the result of the first alternative that succeeds and stops at a token
end, or nothing and what `garbage` leaves -/
theorem simple_elim {motive : Option BoundSet × List Char → Prop} (s : List Char)
    (hy : ∀ x, hyphen s = some x → atEnd x.2 = true → motive x)
    (pr : ∀ x, primitive s = some x → atEnd x.2 = true → motive x)
    (pa : ∀ x, partialP s = some x → atEnd x.2 = true → motive x)
    (ti : ∀ x, tilde s = some x → atEnd x.2 = true → motive x)
    (ca : ∀ x, caret s = some x → atEnd x.2 = true → motive x)
    (garb : motive (none, garbage s)) : motive (simple s) := by
  unfold simple
  cases h1 : terminated (hyphen s) with
  | some x => exact hy x (terminated_some h1).1 (terminated_some h1).2
  | none =>
  cases h2 : terminated (primitive s) with
  | some x => exact pr x (terminated_some h2).1 (terminated_some h2).2
  | none =>
  cases h3 : terminated (partialP s) with
  | some x => exact pa x (terminated_some h3).1 (terminated_some h3).2
  | none =>
  cases h4 : terminated (tilde s) with
  | some x => exact ti x (terminated_some h4).1 (terminated_some h4).2
  | none =>
  cases h5 : terminated (caret s) with
  | some x => exact ca x (terminated_some h5).1 (terminated_some h5).2
  | none => exact garb

/-! conversely: `simple` returns the result of an alternative that stops at a token end once the
alternatives tried before it fail -/

theorem terminated_of_atEnd {b : Option BoundSet} {r : List Char} (hr : atEnd r = true) :
    terminated (some (b, r)) = some (b, r) := by
  simp only [terminated, hr, if_true]

theorem simple_of_hyphen {s r : List Char} {b : Option BoundSet} (h : hyphen s = some (b, r)) (hr : atEnd r = true) :
    simple s = (b, r) := by
  unfold simple
  rw [h, terminated_of_atEnd hr]

theorem simple_of_primitive {s r : List Char} {b : Option BoundSet} (hy : hyphen s = none)
    (h : primitive s = some (b, r)) (hr : atEnd r = true) : simple s = (b, r) := by
  unfold simple
  rw [hy, h, terminated_of_atEnd hr]
  rfl

theorem simple_of_partialP {s r : List Char} {b : Option BoundSet} (hy : hyphen s = none) (pr : primitive s = none)
    (h : partialP s = some (b, r)) (hr : atEnd r = true) : simple s = (b, r) := by
  unfold simple
  rw [hy, pr, h, terminated_of_atEnd hr]
  rfl

theorem simple_of_tilde {s r : List Char} {b : Option BoundSet} (hy : hyphen s = none) (pr : primitive s = none)
    (pa : partialP s = none) (h : tilde s = some (b, r)) (hr : atEnd r = true) : simple s = (b, r) := by
  unfold simple
  rw [hy, pr, pa, h, terminated_of_atEnd hr]
  rfl

theorem simple_of_caret {s r : List Char} {b : Option BoundSet} (hy : hyphen s = none) (pr : primitive s = none)
    (pa : partialP s = none) (ti : tilde s = none) (h : caret s = some (b, r)) (hr : atEnd r = true) :
    simple s = (b, r) := by
  unfold simple
  rw [hy, pr, pa, ti, h, terminated_of_atEnd hr]
  rfl

theorem simple_of_none {s : List Char} (hy : hyphen s = none) (pr : primitive s = none) (pa : partialP s = none)
    (ti : tilde s = none) (ca : caret s = none) : simple s = (none, garbage s) := by
  unfold simple
  rw [hy, pr, pa, ti, ca]
  rfl

/-! the productions that look at the first character, on a first character that is none of theirs;
`operation` after `>` and `<` looks for an `=` -/

theorem component_ne {c : Char} (s : List Char) (h1 : c ≠ 'x') (h2 : c ≠ 'X') (h3 : c ≠ '*') :
    component (c :: s) = match number (c :: s) with
      | .ok v r => some (some v, r)
      | .err _ => none := by
  unfold component
  split
  · rename_i u heq
    cases heq
    exact absurd rfl h1
  · rename_i u heq
    cases heq
    exact absurd rfl h2
  · rename_i u heq
    cases heq
    exact absurd rfl h3
  · rfl

theorem dotComponent_ne {c : Char} (s : List Char) (hc : c ≠ '.') : dotComponent (c :: s) = (none, c :: s) := by
  simp [dotComponent, hc]

theorem stripV_ne {c : Char} (s : List Char) (hc : c ≠ 'v') : stripV (c :: s) = c :: s := by
  simp [stripV, hc]

theorem operation_gt_ne {d : Char} (r : List Char) (hd : d ≠ '=') :
    operation ('>' :: d :: r) = some (.gt, d :: r) := by
  simp [operation, hd]

theorem operation_lt_ne {d : Char} (r : List Char) (hd : d ≠ '=') :
    operation ('<' :: d :: r) = some (.lt, d :: r) := by
  simp [operation, hd]

theorem operation_none_of_head {c : Char} {s : List Char} (h1 : c ≠ '>') (h2 : c ≠ '=') (h3 : c ≠ '<') :
    operation (c :: s) = none := by
  unfold operation
  simp only [h1, h2, h3, if_false]

theorem stripGt_ne {c : Char} (s : List Char) (hc : c ≠ '>') : stripGt (c :: s) = (false, c :: s) := by
  simp [stripGt, hc]

theorem tildeGt_ne {c : Char} (s : List Char) (h : c ≠ '~') : tildeGt (c :: s) = none := by
  simp [tildeGt, h]

theorem caret_none_of_head {c : Char} {t : List Char} (h : c ≠ '^') : caret (c :: t) = none := by
  simp [caret, h]

theorem dash_ne {c : Char} (s : List Char) (hc : c ≠ '-') : dash (c :: s) = none := by
  simp [dash, hc]

/-! progress: what remains is a suffix of the input

`r <:+ s` for every production; the loops below need of it that `simple` does not lengthen its input
and that `space1` and `logical_or` shorten theirs. -/

theorem component_suffix {s c r} (h : component s = some (c, r)) : r <:+ s := by
  rcases component_some h with ⟨_, w, _, rfl⟩ | ⟨n, _, hn⟩
  · exact List.suffix_cons _ _
  · exact number_suffix hn

theorem dotComponent_suffix (s : List Char) : (dotComponent s).2 <:+ s := by
  unfold dotComponent
  split
  · split
    · rename_i c r h
      exact (component_suffix h).trans (List.suffix_cons _ _)
    · exact List.suffix_refl _
  · exact List.suffix_refl _

theorem stripV_suffix (s : List Char) : (stripV s) <:+ s := by
  unfold stripV; split
  · exact List.suffix_cons _ _
  · exact List.suffix_refl _

theorem partialCore_suffix {s p r} (h : partialCore s = some (p, r)) : r <:+ s := by
  unfold partialCore at h
  cases hc : component s with
  | none => rw [hc] at h; cases h
  | some x =>
    rw [hc] at h
    cases h
    have h1 := component_suffix hc
    have h2 := dotComponent_suffix x.2
    have h3 := dotComponent_suffix (dotComponent x.2).2
    by_cases hs : (dotComponent (dotComponent x.2).2).1.isSome = true
    · rw [if_pos hs]; exact (((extras_suffix _).trans h3).trans h2).trans h1
    · rw [if_neg hs]; exact (h3.trans h2).trans h1

theorem partialVersion_suffix {s p r} (h : partialVersion s = some (p, r)) : r <:+ s := by
  unfold partialVersion at h
  exact ((partialCore_suffix h).trans (dropBlanks_suffix _)).trans (stripV_suffix s)

theorem operation_suffix {s o r} (h : operation s = some (o, r)) : r <:+ s := by
  -- after `>` or `<`: one or two characters are gone
  have two : ∀ (c : Char) (rest : List Char) (a b : Operation),
      (match rest with
        | '=' :: u => some (a, u)
        | _ => some (b, rest)) = some (o, r) → r <:+ c :: rest := by
    intro c rest a b h
    split at h
    · cases h; exact (List.suffix_cons _ _).trans (List.suffix_cons _ _)
    · cases h; exact List.suffix_cons _ _
  cases s with
  | nil => cases h
  | cons c rest =>
    by_cases h1 : c = '>'
    · subst h1; exact two _ rest .ge .gt h
    · by_cases h2 : c = '='
      · subst h2
        cases h
        exact List.suffix_cons _ _
      · by_cases h3 : c = '<'
        · subst h3; exact two _ rest .le .lt h
        · rw [operation_none_of_head h1 h2 h3] at h; cases h

theorem primitive_suffix {s b r} (h : primitive s = some (b, r)) : r <:+ s := by
  obtain ⟨op, r1, p, ho, hp, _⟩ := primitive_some h
  exact ((partialVersion_suffix hp).trans (dropBlanks_suffix _)).trans (operation_suffix ho)

theorem partialP_suffix {s b r} (h : partialP s = some (b, r)) : r <:+ s := by
  obtain ⟨p, hp, _⟩ := partialP_some h
  exact partialVersion_suffix hp

theorem stripGt_suffix (s : List Char) : (stripGt s).2 <:+ s := by
  unfold stripGt; split
  · exact List.suffix_cons _ _
  · exact List.suffix_refl _

theorem tildeGt_suffix {s g r} (h : tildeGt s = some (g, r)) : r <:+ s := by
  unfold tildeGt at h
  split at h
  · rename_i u
    cases h
    exact (((dropBlanks_suffix _).trans (stripGt_suffix _)).trans (dropBlanks_suffix u)).trans (List.suffix_cons _ _)
  · cases h

theorem tilde_suffix {s b r} (h : tilde s = some (b, r)) : r <:+ s := by
  obtain ⟨g, r1, p, hg, hp, _⟩ := tilde_some h
  exact (partialVersion_suffix hp).trans (tildeGt_suffix hg)

theorem caret_suffix {s b r} (h : caret s = some (b, r)) : r <:+ s := by
  obtain ⟨u, p, rfl, hp, _⟩ := caret_some h
  exact ((partialVersion_suffix hp).trans (dropBlanks_suffix u)).trans (List.suffix_cons _ _)

theorem blanks1_suffix {s r : List Char} (h : blanks1 s = some r) : r <:+ s := by
  obtain ⟨c, u, rfl, _, rfl⟩ := blanks1_some h
  exact (dropBlanks_suffix u).trans (List.suffix_cons _ _)

theorem blanks1_length {s r} (h : blanks1 s = some r) : r.length < s.length := by
  obtain ⟨c, u, rfl, _, rfl⟩ := blanks1_some h
  exact Nat.lt_succ_of_le (dropBlanks_length_le u)

theorem optPartial_suffix (s : List Char) : (optPartial s).2 <:+ s := by
  unfold optPartial
  split
  · rename_i p r hp; exact partialVersion_suffix hp
  · exact List.suffix_refl _

theorem hyphenRest_suffix {s u r} (h : hyphenRest s = some (u, r)) : r <:+ s := by
  obtain ⟨r1, r2, r3, h1, h2, h3, hp⟩ := hyphenRest_some h
  rw [dash_some h2] at h1
  exact (((partialVersion_suffix hp).trans (blanks1_suffix h3)).trans (List.suffix_cons _ _)).trans
    (blanks1_suffix h1)

theorem hyphen_suffix {s b r} (h : hyphen s = some (b, r)) : r <:+ s := by
  obtain ⟨u, hu, _⟩ := hyphen_some h
  exact (hyphenRest_suffix hu).trans (optPartial_suffix s)

theorem garbage_suffix (s : List Char) : garbage s <:+ s := by
  induction s with
  | nil => exact List.suffix_refl _
  | cons c cs ih =>
    unfold garbage
    split
    · exact List.suffix_refl _
    · exact ih.trans (List.suffix_cons _ _)

theorem simple_suffix (s : List Char) : (simple s).2 <:+ s :=
  simple_elim (motive := fun x => x.2 <:+ s) s (fun _ h _ => hyphen_suffix h) (fun _ h _ => primitive_suffix h)
    (fun _ h _ => partialP_suffix h) (fun _ h _ => tilde_suffix h) (fun _ h _ => caret_suffix h) (garbage_suffix s)

theorem simple_length (s : List Char) : (simple s).2.length ≤ s.length := (simple_suffix s).length_le

/-- `separated(0.., simple, space1)` after its first element -/
def rangeTail (s : List Char) : List (Option BoundSet) × List Char :=
  match h : blanks1 s with
  | none => ([], s)
  | some r =>
    have : (simple r).2.length < s.length := by
      have := blanks1_length h
      have := simple_length r
      omega
    let t := rangeTail (simple r).2
    ((simple r).1 :: t.1, t.2)
termination_by s.length

/-- the fold of `range()`: intersection of all comparators; empty conjunction = no alternative -/
def foldSets (bs : List (Option BoundSet)) : List BoundSet :=
  match bs.filterMap id with
  | [] => []
  | first :: rest =>
    match rest.foldl (fun acc b => acc.bind (·.intersect b)) (some first) with
    | some s => [s]
    | none => []

/-- `range()` -/
def rangeP (s : List Char) : List BoundSet × List Char :=
  let x := simple s
  let t := rangeTail x.2
  (foldSets (x.1 :: t.1), t.2)

/-- `logical_or()`: `delimited(space0, "||", space0)` -/
def logicalOr (s : List Char) : Option (List Char) :=
  match dropBlanks s with
  | '|' :: '|' :: t => some (dropBlanks t)
  | _ => none

theorem rangeTail_none {s : List Char} (h : blanks1 s = none) : rangeTail s = ([], s) := by
  rw [rangeTail]
  split
  · rfl
  · rename_i r hr
    rw [h] at hr
    cases hr

theorem rangeTail_some {s r : List Char} (h : blanks1 s = some r) :
    rangeTail s = ((simple r).1 :: (rangeTail (simple r).2).1, (rangeTail (simple r).2).2) := by
  rw [rangeTail]
  split
  · rename_i hn
    rw [h] at hn
    cases hn
  · rename_i r' hr
    rw [h] at hr
    cases hr
    rfl

theorem rangeTail_length (s : List Char) : (rangeTail s).2.length ≤ s.length := by
  induction s using rangeTail.induct with
  | case1 s h =>
    rw [rangeTail_none h]
    exact Nat.le_refl _
  | case2 s r h hlt ih =>
    rw [rangeTail_some h]
    exact Nat.le_trans ih (Nat.le_of_lt hlt)

theorem rangeP_length (s : List Char) : (rangeP s).2.length ≤ s.length := by
  unfold rangeP
  have := simple_length s
  have := rangeTail_length (simple s).2
  simp; omega

theorem logicalOr_length {s r} (h : logicalOr s = some r) : r.length < s.length := by
  unfold logicalOr at h
  split at h
  · rename_i t ht
    cases h
    -- blanks, then the two bars, then blanks are gone
    have h1 := dropBlanks_length_le s
    have h2 := dropBlanks_length_le t
    rw [ht, List.length_cons, List.length_cons] at h1
    omega
  · cases h

/-- `separated(0.., range, logical_or)` after its first element -/
def boundSetsTail (s : List Char) : List (List BoundSet) × List Char :=
  match h : logicalOr s with
  | none => ([], s)
  | some r =>
    have : (rangeP r).2.length < s.length := by
      have := logicalOr_length h
      have := rangeP_length r
      omega
    let t := boundSetsTail (rangeP r).2
    ((rangeP r).1 :: t.1, t.2)
termination_by s.length

theorem boundSetsTail_none {s : List Char} (h : logicalOr s = none) : boundSetsTail s = ([], s) := by
  rw [boundSetsTail]
  split
  · rfl
  · rename_i r hr
    rw [h] at hr
    cases hr

theorem boundSetsTail_some {s r : List Char} (h : logicalOr s = some r) :
    boundSetsTail s = ((rangeP r).1 :: (boundSetsTail (rangeP r).2).1, (boundSetsTail (rangeP r).2).2) := by
  rw [boundSetsTail]
  split
  · rename_i hn
    rw [h] at hn
    cases hn
  · rename_i r' hr
    rw [h] at hr
    cases hr
    rfl

theorem boundSetsTail_nil : boundSetsTail [] = ([], []) := boundSetsTail_none rfl

/-- `bound_sets()` -/
def boundSets (s : List Char) : List BoundSet × List Char :=
  let x := rangeP s
  let t := boundSetsTail x.2
  ((x.1 :: t.1).flatten, t.2)

/-- `Range::parse` with `range_set()`: leading blanks skipped, no alternative = `NoValidRanges`
reported against the whole input at offset 0 (`try_map` resets the input) -/
def Range.parse (s : List Char) : Except SemverError Range :=
  -- what `bound_sets()` leaves unread is dropped: `range_set()` has no `eof`
  let sets := (boundSets (dropBlanks s)).1
  if sets.isEmpty then .error ⟨s, 0, .noValidRanges⟩ else .ok sets

end Semver
