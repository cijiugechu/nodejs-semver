import SemverSpec.NpmRender
import SemverSpec.VersionGrammar
/-!
# The npm range grammar as a relation between syntax trees and texts

`AstText r s`: the text `s` is a spelling of the syntax tree `r` in the documented range grammar
(node-semver README, "Range Grammar") together with the loose spellings the crate accepts:

```
range-set  ::= blank* range ( blank* '||' blank* range )* blank*
range      ::= hyphen | simple ( blank+ simple )* | ''
hyphen     ::= partial blank+ '-' blank+ partial
simple     ::= primitive | partial | tilde | caret | garbage
primitive  ::= ( '<' | '>' | '>=' | '<=' | '=' ) blank* partial
partial    ::= ( 'v' blank* )? xr ( '.' xr ( '.' xr qualifier? )? )?
xr         ::= 'x' | 'X' | '*' | nr            (nr: decimal digits, leading zeros tolerated, ≤ MAX_SAFE_INTEGER)
tilde      ::= '~' blank* ( '>' blank* )? partial
caret      ::= '^' blank* partial
qualifier  ::= ( '-'? pre )? ( '+' build )?    (without the hyphen, `pre` starts with a letter)
garbage    ::= a blank-free, bar-free token whose first character can start none of the above
```

The tree a text denotes normalises partials the way node-semver does: everything after the first
wildcard is a wildcard, a qualifier only counts on a full triple (`npOf`).

This file is specification: it mentions no parser.  `Lemmas/NpmParse.lean` proves that the crate's
parser maps every text of this grammar to the desugaring tables applied to the tree it denotes.
-/
namespace Semver.Spec.Npm
open Semver Semver.Spec

def Blanks (b : List Char) : Prop := b.all blank = true
def Blanks1 (b : List Char) : Prop := b ≠ [] ∧ b.all blank = true
instance (b : List Char) : Decidable (Blanks b) := by unfold Blanks; infer_instance
instance (b : List Char) : Decidable (Blanks1 b) := by unfold Blanks1; infer_instance

def WildText (w : List Char) : Prop := w = ['x'] ∨ w = ['X'] ∨ w = ['*']

/-- `xr` -/
inductive XrText : List Char → Option Nat → Prop
  | wild {w} : WildText w → XrText w none
  | num {A n} : NumText A n → XrText A (some n)

/-- the partial a component triple denotes (node-semver: after the first wildcard all is wildcard;
the qualifier only counts on a full triple) -/
def npOf : Option Nat → Option Nat → Option Nat → List Ident → List Ident → NP
  | some M, some m, some p, pre, build => .full M m p pre build
  | some M, some m, none, _, _ => .majMin M m
  | some M, none, _, _, _ => .maj M
  | none, _, _, _, _ => .any

inductive PartialBody : List Char → NP → Prop
  | one {A a} : XrText A a → PartialBody A (npOf a none none [] [])
  | two {A B a b} : XrText A a → XrText B b → PartialBody (A ++ '.' :: B) (npOf a b none [] [])
  | three {A B C P Q a b c pre build} : XrText A a → XrText B b → XrText C c →
      PreText P pre → BuildText Q build →
      PartialBody (A ++ '.' :: (B ++ '.' :: (C ++ (P ++ Q)))) (npOf a b c pre build)

/-- `partial`, with the optional `v` (and blanks after it) -/
def PartialText (s : List Char) (p : NP) : Prop :=
  PartialBody s p ∨ ∃ b body, s = 'v' :: (b ++ body) ∧ Blanks b ∧ PartialBody body p

/-- characters that can start a comparator, a separator or a hyphen range -/
def tokenStart (c : Char) : Bool :=
  digit c || blank c || c == 'x' || c == 'X' || c == '*' || c == 'v' || c == '<' || c == '>' || c == '=' ||
    c == '~' || c == '^' || c == '-' || c == '|'

/-- a token that is certainly no comparator: its first character starts none, and it contains no
blank and no bar -/
def GarbageTok (tok : List Char) : Prop :=
  ∃ c t, tok = c :: t ∧ tokenStart c = false ∧ ∀ d ∈ tok, blank d = false ∧ d ≠ '|'

/-- simple ranges; `G` is the class of tokens that are dropped as garbage -/
inductive SimpleTextG (G : List Char → Prop) : Simple → List Char → Prop
  | prim {op p gap t} : Blanks gap → PartialText t p → SimpleTextG G (.prim op p) (opText op ++ (gap ++ t))
  | bare {p t} : PartialText t p → SimpleTextG G (.bare p) t
  | tilde {p gap t} : Blanks gap → PartialText t p → SimpleTextG G (.tilde p) ('~' :: (gap ++ t))
  | tildeGt {p gap gap2 t} : Blanks gap → Blanks gap2 → PartialText t p →
      SimpleTextG G (.tilde p) ('~' :: (gap ++ '>' :: (gap2 ++ t)))
  | caret {p gap t} : Blanks gap → PartialText t p → SimpleTextG G (.caret p) ('^' :: (gap ++ t))
  | garbage {tok} : G tok → SimpleTextG G (.garbage tok) tok

/-- `simple ( blank+ simple )*`, or nothing -/
inductive SimplesTextG (G : List Char → Prop) : List Simple → List Char → Prop
  | nil : SimplesTextG G [] []
  | one {s t} : SimpleTextG G s t → SimplesTextG G [s] t
  | cons {s t b l T} : SimpleTextG G s t → Blanks1 b → SimplesTextG G l T → l ≠ [] →
      SimplesTextG G (s :: l) (t ++ (b ++ T))

inductive AltTextG (G : List Char → Prop) : Alt → List Char → Prop
  | simples {l t} : SimplesTextG G l t → AltTextG G (.simples l) t
  | hyphen {lo hi a b1 b2 c} : PartialText a lo → Blanks1 b1 → Blanks1 b2 → PartialText c hi →
      AltTextG G (.hyphen lo hi) (a ++ (b1 ++ '-' :: (b2 ++ c)))

/-- `blank* '||' blank*` -/
def OrText (o : List Char) : Prop := ∃ b1 b2, o = b1 ++ '|' :: '|' :: b2 ∧ Blanks b1 ∧ Blanks b2

inductive AltsTextG (G : List Char → Prop) : Ast → List Char → Prop
  | nil : AltsTextG G [] []
  | one {a t} : AltTextG G a t → AltsTextG G [a] t
  | cons {a t o r T} : AltTextG G a t → OrText o → AltsTextG G r T → r ≠ [] → AltsTextG G (a :: r) (t ++ (o ++ T))

/-- a whole range text: alternatives, with blanks around -/
def AstTextG (G : List Char → Prop) (r : Ast) (s : List Char) : Prop :=
  ∃ b1 T b2, s = b1 ++ (T ++ b2) ∧ Blanks b1 ∧ Blanks b2 ∧ AltsTextG G r T

/-! The grammar with the parser-independent garbage class `GarbageTok` (tokens whose first character
can start no comparator).  `Lemmas/Closed.lean` instantiates `G` with a wider class: every closed
token in which the parser recognises no comparator. -/
abbrev SimpleText := SimpleTextG GarbageTok
abbrev SimplesText := SimplesTextG GarbageTok
abbrev AltText := AltTextG GarbageTok
abbrev AltsText := AltsTextG GarbageTok
abbrev AstText := AstTextG GarbageTok

/-! ### examples: the grammar is inhabited by the texts one expects -/

theorem numText_one : NumText ['1'] 1 := ⟨by decide, by decide, by decide, by decide⟩
theorem numText_02 : NumText ['0', '2'] 2 := ⟨by decide, by decide, by decide, by decide⟩

/-- `^1.x || >= v02` -/
theorem astText_example : AstText [.simples [.caret (.maj 1)], .simples [.prim .ge (.maj 2)]] "^1.x || >= v02".toList := by
  have a1 : AltText (.simples [.caret (.maj 1)]) "^1.x".toList :=
    .simples (.one (.caret (gap := []) (by decide)
      (Or.inl (.two (A := ['1']) (B := ['x']) (.num numText_one) (.wild (Or.inl rfl))))))
  have a2 : AltText (.simples [.prim .ge (.maj 2)]) ">= v02".toList :=
    .simples (.one (.prim (op := .ge) (gap := [' ']) (by decide)
      (Or.inr ⟨[], ['0', '2'], rfl, by decide, .one (.num numText_02)⟩)))
  -- the text is given in pieces, so that only the final equation evaluates the string
  refine ⟨[], "^1.x".toList ++ (" || ".toList ++ ">= v02".toList), [], by decide, by decide, by decide, ?_⟩
  exact .cons a1 ⟨[' '], [' '], rfl, by decide, by decide⟩ (.one a2) (List.cons_ne_nil _ _)

end Semver.Spec.Npm
