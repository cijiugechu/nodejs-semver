import SemverProofs.Props.C01
import SemverProofs.Props.C02
import SemverProofs.Props.C03
import SemverProofs.Props.C04
import SemverProofs.Props.C05
import SemverProofs.Props.C06
import SemverProofs.Props.C07
import SemverProofs.Props.C08
import SemverProofs.Props.C09
import SemverProofs.Props.C10
import SemverProofs.Props.C11
import SemverProofs.Props.C12
import SemverProofs.Props.C13
import SemverProofs.Props.C14
import SemverProofs.Props.C15
import SemverProofs.Props.C16
import SemverProofs.Props.C17
import SemverProofs.Props.C18
import SemverProofs.GenEquiv
